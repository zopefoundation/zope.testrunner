import Ztr.Props.C07
import Ztr.Props.C04
import Ztr.Model.Runner
import Ztr.Model.Whole
/-! # C02 — the verdict is 'failed' exactly when something went wrong (partial)

The verdict of one process is a function of its three lists, `C02_verdict`; what fills the lists is
`C12_step` (tests), the layer loop (`Err.layerTearDown` is appended where a `tearDown _ raised` event is
emitted, `C02_tearDown_outcomes`; `Err.layerSetUp` by `run_layer`, once per `setup_layer` that failed, against
the layer that was being set up, `C04_layer_failure_recorded`) and, for children, the channel theorems of C07;
`C02_verdict_iff_trace` and `C02_run_verdict` put these together, for one process and for the whole run. -/
namespace Ztr.Runner

/-- **C02_verdict** — `Runner.failed = bool(import_errors or failures or errors)`. -/
theorem C02_verdict (w : World) (o : Opts) (cb : Nat → Bool) :
    (runProcess w o cb).failed = true ↔
      w.importErrors > 0 ∨ (runProcess w o cb).failures ≠ [] ∨ (runProcess w o cb).errors ≠ [] := by
  simp [runProcess, outcomeOf, or_assoc]

/-- **C02_tearDown_outcomes** — a `tearDown` signalling NotImplementedError records no error,
one that raises records exactly one. -/
theorem C02_tearDown_outcomes (w : World) (opt : Bool) (l : Nat) (s : PS) (h : (w.info l).hasTearDown = true) :
    (w.tearDownResult l (countTearDown l s.trace) = .ok →
      (tearDownList w opt [l] s).1.errors = s.errors) ∧
    (w.tearDownResult l (countTearDown l s.trace) = .notImpl →
      (tearDownList w opt [l] s).1.errors = s.errors) ∧
    (w.tearDownResult l (countTearDown l s.trace) = .raised →
      (tearDownList w opt [l] s).1.errors = s.errors ++ [.layerTearDown l]) := by
  refine ⟨?_, ?_, ?_⟩ <;> intro hr <;> simp [tearDownList, h, hr, PS.emit] <;> (try split) <;> simp

/-- **C02_child_channel** — what the parent knows about a child is exactly what the child reported,
or an error when the child could not be started, died or was cut short (C07). -/
theorem C02_child_channel (spawnFailed : Bool) (stderr : Channel.Bytes) :
    Channel.parentOutcome spawnFailed stderr = .commError ∨
    (∃ ran f e, Channel.parentOutcome spawnFailed stderr = .ok ran f e) ∨
    Channel.parentOutcome spawnFailed stderr = .crash := by
  cases h : Channel.parentOutcome spawnFailed stderr with
  | commError => exact Or.inl rfl
  | ok ran f e => exact Or.inr (Or.inl ⟨ran, f, e, rfl⟩)
  | crash => exact Or.inr (Or.inr rfl)

/-! ## the verdict of a process from its trace

`failed` is computed from the runner's lists; the theorems below tie the lists to what *happened*
(the events of the trace), for every world, oracle and option set: the lists have exactly one entry
per failure report, per error report, per layer `setUp` that raised, per layer `tearDown` that raised
and per child that came back bad — so the verdict is 'failed' iff one of those events exists or a
module could not be imported. -/
open Ztr.Layers Ztr.Result

def isFailEv : Ev → Bool
  | .test (.report _ b _) => (b == .failure || b == .subFailure || b == .unexpectedSuccess)
  | _ => false

def isErrEv (cb : Nat → Bool) : Ev → Bool
  | .test (.report _ b _) => (b == .error || b == .subError)
  | .setUp _ ok => !ok
  | .tearDown _ r => r == .raised
  | .spawn l _ => cb l
  | _ => false

/-- the lists agree with the events, unless a KeyboardInterrupt is propagating (the run is being
abandoned, and the iteration it came from is logged but not merged) -/
def Counted (cb : Nat → Bool) (s : PS) : Prop :=
  s.interrupted = false →
    s.failures.length = s.trace.countP isFailEv ∧ s.errors.length = s.trace.countP (isErrEv cb)

theorem countP_tests (cb : Nat → Bool) : ∀ evs : List REv,
    (evs.map Ev.test).countP isFailEv = (tallyEvs evs).1 ∧ (evs.map Ev.test).countP (isErrEv cb) = (tallyEvs evs).2.1
  | [] => ⟨rfl, rfl⟩
  | e :: r => by
    obtain ⟨h1, h2⟩ := countP_tests cb r
    cases e with
    | report t b k => cases b <;> simp [isFailEv, isErrEv, tallyEvs, h1, h2]
    | _ => simp [isFailEv, isErrEv, tallyEvs, h1, h2]

theorem countP_nontest (cb : Nat → Bool) : ∀ (evs : List Ev), (∀ e ∈ evs, ∀ r, e ≠ Ev.test r) →
    evs.countP isFailEv = 0 ∧
    evs.countP (isErrEv cb) = (evs.filterMap (errOf cb)).length + evs.countP setUpFailed
  | [], _ => ⟨rfl, rfl⟩
  | e :: evs, h => by
    obtain ⟨h1, h2⟩ := countP_nontest cb evs (fun x hx => h x (by simp [hx]))
    rw [List.countP_cons, List.countP_cons, List.countP_cons, List.filterMap_cons, h1, h2]
    cases e with
    | test r => exact absurd rfl (h _ (by simp) r)
    | setUp l ok => cases ok <;> simp [isFailEv, isErrEv, errOf, setUpFailed] <;> omega
    | tearDown l r => cases r <;> simp [isFailEv, isErrEv, errOf, setUpFailed] <;> omega
    | spawn l n => cases hc : cb l <;> simp [isFailEv, isErrEv, errOf, setUpFailed, hc] <;> omega
    | _ => simp [isFailEv, isErrEv, errOf, setUpFailed]

theorem counted_logs {cb : Nat → Bool} {s s' : PS} {new : List (Ev × Snap)} (hl : Logs cb s s' new)
    (hn : ∀ p ∈ new, ∀ r, p.1 ≠ Ev.test r) (h : Counted cb s) (hi : s'.interrupted = false) :
    s'.failures.length = s'.trace.countP isFailEv ∧
    s'.errors.length + (new.map (·.1)).countP setUpFailed = s'.trace.countP (isErrEv cb) := by
  obtain ⟨h1, h2⟩ := h (hl.interrupted ▸ hi)
  obtain ⟨k1, k2⟩ := countP_nontest cb (new.map (·.1)) (List.forall_mem_map.2 hn)
  rw [hl.failures, hl.trace, hl.errors, List.countP_append, List.countP_append, List.length_append, k1, k2, h1, h2]
  omega

theorem counted_plain {cb : Nat → Bool} {s s' : PS} {new : List (Ev × Snap)} (hl : Logs cb s s' new)
    (hn : ∀ p ∈ new, isRun p.1 = false) (h : Counted cb s) : Counted cb s' := by
  intro hi
  have hz : (new.map (·.1)).countP setUpFailed = 0 :=
    List.countP_eq_zero.2 fun e he => by
      obtain ⟨p, hp, rfl⟩ := List.mem_map.1 he
      have := hn p hp
      cases hp1 : p.1 <;> simp [hp1, isRun, setUpFailed] at this ⊢
  have := counted_logs hl (fun p hp => ne_test_of_isRun (hn p hp)) h hi
  rwa [hz] at this

def Delta.Counted (cb : Nat → Bool) (d : Delta) : Prop :=
  d.failures.length = d.trace.countP isFailEv ∧ d.errors.length = d.trace.countP (isErrEv cb)

theorem counted_iterDelta (cb : Nat → Bool) (w : World) (o : Opts) (l : Nat) (tests : List Proto.TestDef) :
    (iterDelta w o l tests).Counted cb := by
  have hc := C12_counts (resultCfg w o l) tests
  simp only [Delta.Counted, iterDelta, List.length_append, List.length_map, List.countP_append, (countP_tests cb _).1,
    (countP_tests cb _).2, ← hc, tallyState]
  exact ⟨rfl, rfl⟩

theorem counted_layerDelta (cb : Nat → Bool) (w : World) (o : Opts) (l : Nat) (tests : List Proto.TestDef) (n : Nat) :
    (layerDelta w o l tests n).interrupted = false → (layerDelta w o l tests n).Counted cb := by
  have a := counted_iterDelta cb w o l tests
  refine layerDelta_induction w o l tests (P := fun d => d.interrupted = false → d.Counted cb)
    (fun _ => ⟨rfl, rfl⟩) (fun h => by rw [runTests_not_aborted] at h; cases h) (fun _ h => by cases h)
    (fun _ => a) (fun d hd hi => ?_) n
  obtain ⟨b1, b2⟩ := hd (by simpa [Delta.append, iterDelta] using hi)
  simp [Delta.Counted, Delta.append, a.1, a.2, b1, b2]

theorem counted_finalState (w : World) (o : Opts) (cb : Nat → Bool) : Counted cb (finalState w o cb) := by
  refine finalState_preserves (P := Counted cb) (fun _ => ⟨rfl, rfl⟩) (logs := counted_plain) (setup := ?_)
    (iters := ?_) (ran := fun _ _ h => h)
  · intro s s' new l ok hl hk h
    have hc := counted_logs hl (fun p hp r => by obtain ⟨b, x, e⟩ := hk.kind p hp; simp [e]) h
    -- the trace already counts the `setUp` that raised; its list entry is the `.layerSetUp l` that `run_layer`
    -- appends: there is one such event exactly when `setup_layer` failed
    rw [hk.failed] at hc
    cases ok <;> intro hi <;> simpa using hc hi
  · intro g _ n s s' he h hi
    rw [he.interrupted, Bool.or_eq_false_iff] at hi
    obtain ⟨h1, h2⟩ := h hi.1
    obtain ⟨d1, d2⟩ := counted_layerDelta cb w o g.1 g.2 n hi.2
    rw [he.failures, he.errors, he.trace, List.length_append, List.length_append, List.countP_append,
      List.countP_append, h1, h2, d1, d2]
    exact ⟨rfl, rfl⟩

theorem lists_iff_trace (w : World) (o : Opts) (cb : Nat → Bool) (hint : (finalState w o cb).interrupted = false) :
    ((finalState w o cb).failures ≠ [] ∨ (finalState w o cb).errors ≠ []) ↔
      ∃ e ∈ (finalState w o cb).trace, isFailEv e = true ∨ isErrEv cb e = true := by
  obtain ⟨h1, h2⟩ := counted_finalState w o cb hint
  rw [← List.length_pos_iff, ← List.length_pos_iff, h1, h2, List.countP_pos_iff, List.countP_pos_iff]
  exact ⟨fun h => h.elim (fun ⟨e, he, h⟩ => ⟨e, he, Or.inl h⟩) (fun ⟨e, he, h⟩ => ⟨e, he, Or.inr h⟩),
    fun ⟨e, he, h⟩ => h.imp (fun h => ⟨e, he, h⟩) (fun h => ⟨e, he, h⟩)⟩

/-- **C02_verdict_iff_trace** — for every world, every oracle of layer outcomes, every option set and
every process role, in a run that is not abandoned by a KeyboardInterrupt: the verdict of the process
is 'failed' **iff** a test module could not be imported, or its trace contains a failure / error /
unexpected-success / failing-sub-test report, a layer `setUp` that raised, a layer `tearDown` that
raised (NotImplementedError is not an error), or a child that came back bad (`cb`, decided by the
channel: `C07_*`).  What tests write to stdout/stderr is not an input of the verdict at all. -/
theorem C02_verdict_iff_trace (w : World) (o : Opts) (cb : Nat → Bool)
    (hint : (runProcess w o cb).interrupted = false) :
    (runProcess w o cb).failed = true ↔
      w.importErrors > 0 ∨ ∃ e ∈ (runProcess w o cb).trace, isFailEv e = true ∨ isErrEv cb e = true := by
  rw [C02_verdict]
  exact or_congr_right (lists_iff_trace w o cb hint)


/-! ## the whole run: parent and children (`Model/Whole`: what can happen to a child is the parameter `fate`) -/

/-- something went wrong inside a process: a bad test outcome or a layer hook that raised -/
def isBadEv (e : Ev) : Bool := isFailEv e || isErrEv (fun _ => false) e

theorem isErrEv_split (cb : Nat → Bool) (e : Ev) :
    isErrEv cb e = true ↔ isErrEv (fun _ => false) e = true ∨ ∃ l n, e = .spawn l n ∧ cb l = true := by
  cases e with
  | test r => cases r <;> simp [isErrEv]
  | _ => simp [isErrEv]

theorem mem_spawnedLayers {τ : List Ev} {l : Nat} : l ∈ spawnedLayers τ ↔ ∃ n, Ev.spawn l n ∈ τ := by
  unfold spawnedLayers
  rw [List.mem_filterMap]
  constructor
  · rintro ⟨e, he, hm⟩
    cases e <;> simp at hm
    subst hm
    exact ⟨_, he⟩
  · rintro ⟨n, hn⟩
    exact ⟨_, hn, rfl⟩

theorem child_bad_iff_trace (w : World) (o : Opts) (l : Nat) (hint : (childOut w o l).interrupted = false) :
    ((!(childOut w o l).failures.isEmpty || !(childOut w o l).errors.isEmpty) = true) ↔
      ∃ e ∈ (childOut w o l).trace, isBadEv e = true := by
  simp only [isBadEv, Bool.or_eq_true]
  refine Iff.trans ?_ (lists_iff_trace w { o with resume := some (l, numberOf w o l) } (fun _ => false) hint)
  show _ ↔ (childOut w o l).failures ≠ [] ∨ (childOut w o l).errors ≠ []
  cases (childOut w o l).failures <;> cases (childOut w o l).errors <;> simp

theorem bad_split (cb : Nat → Bool) (τ : List Ev) :
    (∃ e ∈ τ, isFailEv e = true ∨ isErrEv cb e = true) ↔
      (∃ e ∈ τ, isBadEv e = true) ∨ ∃ l ∈ spawnedLayers τ, cb l = true := by
  simp only [isBadEv, Bool.or_eq_true, isErrEv_split cb, mem_spawnedLayers]
  constructor
  · rintro ⟨e, he, h | h | ⟨l, n, rfl, hc⟩⟩
    · exact Or.inl ⟨e, he, Or.inl h⟩
    · exact Or.inl ⟨e, he, Or.inr h⟩
    · exact Or.inr ⟨l, ⟨n, he⟩, hc⟩
  · rintro (⟨e, he, h | h⟩ | ⟨l, ⟨n, he⟩, hc⟩)
    · exact ⟨e, he, Or.inl h⟩
    · exact ⟨e, he, Or.inr (Or.inl h)⟩
    · exact ⟨_, he, Or.inr (Or.inr ⟨l, n, rfl, hc⟩)⟩

/-- **C02_run_verdict** — the verdict of the whole run (the parent's exit status), for in-process
runs, layers resumed in subprocesses and `-j N` alike, for every world, oracle, option set and every
fate of every child: it is 'failed' **iff** a test module could not be imported, or something went
wrong in the parent process (a failing / erroring / unexpectedly succeeding test or sub-test, a layer
`setUp` or `tearDown` that raised), or a child was started that was lost or in whose process
something went wrong.  (No KeyboardInterrupt is propagating in the processes considered.) -/
theorem C02_run_verdict (w : World) (o : Opts) (fate : Nat → Fate)
    (hp : (parentOut w o fate).interrupted = false)
    (hch : ∀ l ∈ spawnedLayers (parentOut w o fate).trace, (childOut w o l).interrupted = false) :
    (parentOut w o fate).failed = true ↔
      w.importErrors > 0 ∨ (∃ e ∈ (parentOut w o fate).trace, isBadEv e = true) ∨
      ∃ l ∈ spawnedLayers (parentOut w o fate).trace,
        fate l = .lost ∨ ∃ e ∈ (childOut w o l).trace, isBadEv e = true := by
  unfold parentOut at *
  rw [C02_verdict_iff_trace w o (cbOf w o fate) hp, bad_split]
  refine or_congr_right (or_congr_right (exists_congr fun l => and_congr_right fun hl => ?_))
  rw [← child_bad_iff_trace w o l (hch l hl)]
  simp [cbOf, Bool.or_assoc]

/-- **C02_notImplemented_is_not_an_error** — a `tearDown` that raised NotImplementedError is neither a
failure nor an error event, whatever the children do. -/
theorem C02_notImplemented_is_not_an_error (l : Nat) (cb : Nat → Bool) :
    isErrEv cb (.tearDown l .notImpl) = false ∧ isFailEv (.tearDown l .notImpl) = false := ⟨rfl, rfl⟩

end Ztr.Runner
