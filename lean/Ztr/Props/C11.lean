import Ztr.Model.Shuffle
import Ztr.Lemmas.Sort
/-! # C11 — shuffle is a seed-determined permutation inside each layer -/
namespace Ztr.Shuffle

variable {α : Type}

theorem swapAt_perm (xs : Array α) (i j : Nat) : (swapAt xs i j).Perm xs := by
  unfold swapAt
  split
  · exact Array.swap_perm _ _
  · exact Array.Perm.refl _

theorem fyLoop_perm : ∀ (n : Nat) (js : List Nat) (xs : Array α), (fyLoop n js xs).1.Perm xs
  | 0, _, _ => Array.Perm.refl _
  | _ + 1, [], _ => Array.Perm.refl _
  | n + 1, j :: js, xs => (fyLoop_perm n js _).trans (swapAt_perm xs (n + 1) j)

/-- **C11_perm** — for every index stream and every list the shuffled list is a permutation:
no test dropped, none duplicated. -/
theorem C11_perm (js : List Nat) (xs : List α) : (fisherYates js xs).1.Perm xs := by
  unfold fisherYates
  have := fyLoop_perm (xs.length - 1) js xs.toArray
  simpa using this.toList

/-- lists of length 0 and 1 are fixed points and consume nothing from the stream -/
theorem C11_small (js : List Nat) (xs : List α) (h : xs.length ≤ 1) : fisherYates js xs = (xs, js) := by
  unfold fisherYates
  have : xs.length - 1 = 0 := by omega
  simp [this, fyLoop]

theorem shuffleSorted_names : ∀ (L : List (Name × List α)) (js : List Nat),
    (shuffleSorted L js).map (·.1) = L.map (·.1)
  | [], _ => rfl
  | (n, ts) :: rest, js => by simp [shuffleSorted, shuffleSorted_names rest]

theorem lookup_shuffleSorted {n : Name} {ts : List α} :
    ∀ (L : List (Name × List α)) (js : List Nat), (L.map (·.1)).Nodup → (n, ts) ∈ L →
      ∃ ts', lookup n (shuffleSorted L js) = some ts' ∧ ts'.Perm ts
  | (m, us) :: rest, js, hnd, h => by
    rw [List.map_cons, List.nodup_cons] at hnd
    simp only [shuffleSorted, lookup]
    rcases List.mem_cons.1 h with heq | hin
    · cases heq
      exact ⟨_, if_pos rfl, C11_perm js ts⟩
    · rw [if_neg fun e => hnd.1 (List.mem_map.2 ⟨(n, ts), hin, e.symm⟩)]
      exact lookup_shuffleSorted rest _ hnd.2 hin

/-- **C11_within_layer** — `shuffleAll` keeps every layer key at its place and replaces its test
list by a permutation of itself: tests never move across layers.  (`Nodup` of the keys: they are the
keys of a dict.) -/
theorem C11_within_layer (layers : List (Name × List α)) (js : List Nat)
    (hnd : (layers.map (·.1)).Nodup) :
    (shuffleAll layers js).length = layers.length ∧
    ∀ p ∈ (shuffleAll layers js).zip layers, p.1.1 = p.2.1 ∧ p.1.2.Perm p.2.2 := by
  unfold shuffleAll
  refine ⟨List.length_map _, fun p hp => ?_⟩
  -- a pair of the zip is a layer `q` after and before: `((q.1, …), q)`
  rw [List.zip_eq_zipWith, List.zipWith_map_left, List.zipWith_self] at hp
  obtain ⟨q, hq, rfl⟩ := List.mem_map.1 hp
  have hperm := PySort.isort_perm (fun (a b : Name × List α) => decide (a.1 ≤ b.1)) layers
  obtain ⟨ts', h1, h2⟩ := lookup_shuffleSorted _ js ((hperm.map (·.1)).nodup_iff.2 hnd) (hperm.mem_iff.2 hq)
  exact ⟨rfl, by simpa only [h1, Option.getD_some] using h2⟩

theorem shuffle_before_filter : idx "Shuffle" < idx "Filter" := by decide +kernel
theorem shuffle_before_subprocess : idx "Shuffle" < idx "SubProcess" := by decide +kernel
theorem shuffle_before_listing : idx "Shuffle" < idx "Listing" := by decide +kernel
theorem find_before_shuffle : idx "Find" < idx "Shuffle" := by decide +kernel

/-- **C11_same_in_every_mode** — with the feature order of `Runner.configure` (generated from the
source), every run that selects a subset `S` of the layers (`--layer`, `-u`, `-f`, a child that keeps
only its `--resume-layer`) sees, for each selected layer, exactly the order the unfiltered run and
`--list-tests` see: the stream is consumed over *all* discovered layers before any is dropped. -/
theorem C11_same_in_every_mode (S : Name → Bool) (js : List Nat) (layers : List (Name × List α)) :
    pipeline Facts.featureOrder S js layers = (shuffleAll layers js).filter (fun p => S p.1) := by
  simp [pipeline, Facts.featureOrder, applyFeature]

/-- with the opposite order a filtered run would consume the stream from its start for a different
first layer -/
theorem C11_order_matters :
    ∃ (S : Name → Bool) (js : List Nat) (layers : List (Name × List Nat)),
      pipeline ["Filter", "Shuffle"] S js layers ≠ pipeline ["Shuffle", "Filter"] S js layers :=
  ⟨fun n => n == [98], [0, 0, 1, 1], [([97], [1, 2, 3]), ([98], [4, 5, 6])], by decide⟩

/-- **C11_children_same_seed** — whatever the user passed and whatever the clocks say, a child
shuffles with the seed the parent used and reported. -/
theorem C11_children_same_seed (given : Option Int) (parentClock childClock : Int) :
    effectiveSeed (childGiven given parentClock) childClock = effectiveSeed given parentClock := by
  simp [effectiveSeed, childGiven]

/-- re-running with the reported seed reproduces the seed (hence the stream, hence the order) -/
theorem C11_rerun_reported (given : Option Int) (clock clock' : Int) :
    effectiveSeed (some (effectiveSeed given clock)) clock' = effectiveSeed given clock := by
  simp [effectiveSeed]

example : (fisherYates [0, 1, 0] [10, 20, 30, 40]).1 = [30, 40, 20, 10] := by decide
example : shuffleAll [([98], [1, 2, 3]), ([97], [4, 5, 6])] [0, 0, 1, 1]
    = [([98], [1, 3, 2]), ([97], [5, 6, 4])] := by decide

end Ztr.Shuffle
