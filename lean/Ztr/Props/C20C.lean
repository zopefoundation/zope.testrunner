import Ztr.Props.C20B
/-! # C20, stage C — Tarjan's invariants on the step machine: every yielded component is a strongly
connected component (mutual reachability class), and all nodes are yielded

Colours: *white* = unvisited, *gray* = on `ancestors` (the current DFS path), *black* = visited and not
gray; black nodes are either still on the stack or in a yielded component.  The stack decomposes into
one *segment* per ancestor: the black nodes finished inside that ancestor's subtree (and not yet
popped), then the ancestor itself.  -/
namespace Ztr.Digraph

def numOf (s : St) (x : Nat) : Nat := (s.num x).getD 0

/-- the edge `x → m` has been accounted for in `low x` -/
def EdgeOK (s : St) (x m : Nat) : Prop := s.num m ≠ none ∧ (m ∈ s.stack → s.low x ≤ numOf s m)

/-- what is known about a black stacked node `x` whose nearest gray node below it is `a` -/
structure BlackOK (nbrs : Nat → List Nat) (s : St) (a x : Nat) : Prop where
  up : Reaches nbrs x a
  down : Reaches nbrs a x
  lowge : s.low a ≤ s.low x
  nonroot : s.low x < numOf s x
  edges : ∀ m ∈ nbrs x, EdgeOK s x m

/-- ancestors, visit stack and node stack decompose together, one frame/segment per ancestor -/
inductive Segs (nbrs : Nat → List Nat) (s : St) : List Nat → List (Option Nat) → List Nat → Prop
  | nil : Segs nbrs s [] [] []
  | cons {a : Nat} {A : List Nat} {P : List Nat} {V : List (Option Nat)} {B S : List Nat} :
      (∀ m ∈ P, m ∈ nbrs a) →
      (∀ m ∈ nbrs a, m ∈ P ∨ EdgeOK s a m) →
      (∀ x ∈ B, BlackOK nbrs s a x) →
      (∀ p, A.head? = some p → a ∈ nbrs p) →
      Segs nbrs s A V S →
      Segs nbrs s (a :: A) (P.map some ++ none :: V) (B ++ a :: S)

theorem Segs.frames {nbrs : Nat → List Nat} {s : St} {A : List Nat} {V : List (Option Nat)} {S : List Nat}
    (h : Segs nbrs s A V S) : Frames nbrs A V := by
  induction h with
  | nil => exact Frames.nil
  | cons hP _ _ _ _ ih => exact Frames.cons hP ih

section segs
variable {nbrs : Nat → List Nat} {s s' : St} {A : List Nat} {V : List (Option Nat)} {S : List Nat}

theorem Segs.nil_stack (h : Segs nbrs s [] V S) : V = [] ∧ S = [] := by
  cases h; exact ⟨rfl, rfl⟩

theorem Segs.anc_sub (h : Segs nbrs s A V S) : ∀ a ∈ A, a ∈ S := by
  induction h with
  | nil => exact fun _ ha => nomatch ha
  | cons _ _ _ _ _ ih =>
    intro x hx
    rcases List.mem_cons.1 hx with rfl | hx
    · simp
    · simp [ih x hx]

theorem Segs.inv_cons {a : Nat} (h : Segs nbrs s (a :: A) V S) :
    ∃ (P : List Nat) (V0 : List (Option Nat)) (B S0 : List Nat), V = P.map some ++ none :: V0 ∧ S = B ++ a :: S0 ∧
      (∀ m ∈ P, m ∈ nbrs a) ∧ (∀ m ∈ nbrs a, m ∈ P ∨ EdgeOK s a m) ∧ (∀ x ∈ B, BlackOK nbrs s a x) ∧
      (∀ p, A.head? = some p → a ∈ nbrs p) ∧ Segs nbrs s A V0 S0 := by
  cases h with
  | cons h1 h2 h3 h4 h5 => exact ⟨_, _, _, _, rfl, rfl, h1, h2, h3, h4, h5⟩

theorem Segs.reach_top (h : Segs nbrs s A V S) : ∀ a, A.head? = some a → ∀ y ∈ S, Reaches nbrs y a := by
  induction h with
  | nil => exact fun _ ha => nomatch ha
  | @cons a A P V B S _ _ h3 h4 h5 ih =>
    intro a' ha' y hy
    cases ha'
    rcases List.mem_append.1 hy with hy | hy
    · exact (h3 y hy).up
    · rcases List.mem_cons.1 hy with rfl | hy
      · exact Reaches.refl _
      · cases A with
        | nil => cases h5.nil_stack.2; cases hy
        | cons p A' => exact (ih p rfl y hy).trans (Reaches.edge (h4 p rfl))

theorem Segs.drop {m : Nat} {vs : List (Option Nat)} (h : Segs nbrs s A (some m :: vs) S)
    (he : ∀ a, A.head? = some a → EdgeOK s a m) : Segs nbrs s A vs S := by
  cases A with
  | nil => cases h.nil_stack.1
  | cons a A0 =>
    obtain ⟨P, V0, B, S0, hV, rfl, h1, h2, h3, h4, h5⟩ := h.inv_cons
    cases P with
    | nil => cases hV
    | cons q P' =>
      cases hV
      refine .cons (fun x hx => h1 x (List.mem_cons_of_mem _ hx)) (fun x hx => ?_) h3 h4 h5
      rcases h2 x hx with hq | hq
      · rcases List.mem_cons.1 hq with rfl | hq
        · exact Or.inr (he a rfl)
        · exact Or.inl hq
      · exact Or.inr hq

theorem EdgeOK.transfer {x m : Nat} (h : EdgeOK s x m)
    (hnum : ∀ m, s.num m ≠ none → s'.num m = s.num m)
    (hstack : ∀ m, s.num m ≠ none → m ∈ s'.stack → m ∈ s.stack)
    (hl : s'.low x ≤ s.low x) : EdgeOK s' x m :=
  ⟨hnum m h.1 ▸ h.1, fun hm => by rw [numOf, hnum m h.1]; exact Nat.le_trans hl (h.2 (hstack m h.1 hm))⟩

/-- the structure survives a change of state that keeps the numbering, does not add old nodes to the
stack, lowers `low` only for gray nodes and leaves it alone for black ones -/
theorem Segs.transfer (h : Segs nbrs s A V S)
    (hnum : ∀ m, s.num m ≠ none → s'.num m = s.num m)
    (hstack : ∀ m, s.num m ≠ none → m ∈ s'.stack → m ∈ s.stack)
    (hlowA : ∀ x ∈ A, s'.low x ≤ s.low x)
    (hlowB : ∀ x ∈ S, x ∉ A → s'.low x = s.low x)
    (hnd : S.Nodup) : Segs nbrs s' A V S := by
  induction h with
  | nil => exact .nil
  | @cons a A P V B S h1 h2 h3 h4 h5 ih =>
    obtain ⟨_, hndS, hdisj⟩ := List.nodup_append.1 hnd
    obtain ⟨haS, hndS⟩ := List.nodup_cons.1 hndS
    have hla := hlowA a List.mem_cons_self
    refine .cons h1 (fun m hm => (h2 m hm).imp_right (·.transfer hnum hstack hla)) (fun x hx => ?_) h4
      (ih (fun x hx => hlowA x (List.mem_cons_of_mem _ hx)) (fun x hx hxA => ?_) hndS)
    · have hb := h3 x hx
      -- a black node is not gray, and is numbered since `low x < numOf s x`
      have hlx : s'.low x = s.low x := by
        refine hlowB x (List.mem_append_left _ hx) (fun hxA => ?_)
        rcases List.mem_cons.1 hxA with rfl | hxA
        · exact hdisj x hx x List.mem_cons_self rfl
        · exact hdisj x hx x (List.mem_cons_of_mem _ (h5.anc_sub x hxA)) rfl
      have hxv : s.num x ≠ none := fun e => by have := hb.nonroot; rw [numOf, e] at this; exact Nat.not_lt_zero _ this
      exact ⟨hb.up, hb.down, hlx ▸ Nat.le_trans hla hb.lowge, by rw [hlx, numOf, hnum x hxv]; exact hb.nonroot,
        fun m hm => (hb.edges m hm).transfer hnum hstack (Nat.le_of_eq hlx)⟩
    · refine hlowB x (List.mem_append_right _ (List.mem_cons_of_mem _ hx)) (fun hh => ?_)
      rcases List.mem_cons.1 hh with rfl | hh
      · exact haS hx
      · exact hxA hh

end segs

structure Inv3 (order : List Nat) (nbrs : Nat → List Nat) (s : St) : Prop where
  base : Inv order s
  segs : Segs nbrs s s.ancestors s.visits s.stack ∨
    (s.ancestors = [] ∧ s.stack = [] ∧ ∃ m, s.visits = [some m] ∧ s.num m = none ∧ m ∈ s.unvisited)
  numlt : ∀ x d, s.num x = some d → d < s.counter
  numinj : ∀ x y, s.num x ≠ none → s.num x = s.num y → x = y
  numOrd : ∀ x, s.num x ≠ none → x ∈ order
  stk : ∀ x, s.stacked x = true ↔ x ∈ s.stack
  sorted : s.stack.Pairwise (fun x y => numOf s y < numOf s x)
  lowle : ∀ x ∈ s.stack, s.low x ≤ numOf s x
  lowwit : ∀ x ∈ s.stack, ∃ y ∈ s.stack, numOf s y = s.low x ∧ Reaches nbrs x y
  closedOut : ∀ x ∈ s.out.flatten, ∀ m ∈ nbrs x, m ∈ s.out.flatten
  sccs : ∀ C ∈ s.out, ∀ x ∈ C, ∀ y, y ∈ C ↔ (Reaches nbrs x y ∧ Reaches nbrs y x)

theorem inv3_init (order : List Nat) (nbrs : Nat → List Nat) : Inv3 order nbrs (init order) where
  base := inv_init order
  segs := Or.inl Segs.nil
  numlt := fun _ _ h => nomatch h
  numinj := fun _ _ h => absurd rfl h
  numOrd := fun _ h => absurd rfl h
  stk := by intro x; simp [init]
  sorted := List.Pairwise.nil
  lowle := fun _ h => nomatch h
  lowwit := fun _ h => nomatch h
  closedOut := fun _ h => nomatch h
  sccs := fun _ h => nomatch h

theorem Inv3.out_visited {order : List Nat} {nbrs : Nat → List Nat} {s : St} (hnd : order.Nodup) (h : Inv3 order nbrs s) :
    ∀ x ∈ s.out.flatten, s.num x ≠ none :=
  fun _ hx => h.base.visited hnd (List.mem_append_right _ hx)

section derived
variable {order : List Nat} {nbrs : Nat → List Nat} {s : St}

theorem Inv3.nodupStack (h : Inv3 order nbrs s) : s.stack.Nodup :=
  List.Pairwise.imp (S := (· ≠ ·)) (fun hlt e => Nat.lt_irrefl _ (e ▸ hlt)) h.sorted

/-- unless a root has just been picked, the stacks decompose into segments -/
theorem Inv3.segs_of (h : Inv3 order nbrs s) (hne : ∀ m, s.visits = [some m] → s.num m ≠ none) :
    Segs nbrs s s.ancestors s.visits s.stack :=
  h.segs.elim id fun ⟨_, _, m, hm, hn, _⟩ => absurd hn (hne m hm)

theorem Inv3.segs_marker (h : Inv3 order nbrs s) {vs : List (Option Nat)} (hv : s.visits = none :: vs) :
    Segs nbrs s s.ancestors (none :: vs) s.stack :=
  hv ▸ h.segs_of (by simp [hv])

/-- the visit of a node that has its number already is not the pick of a root -/
theorem Inv3.segs_visit (h : Inv3 order nbrs s) {node d : Nat} {vs : List (Option Nat)}
    (hv : s.visits = some node :: vs) (hnum : s.num node = some d) :
    Segs nbrs s s.ancestors (some node :: vs) s.stack :=
  hv ▸ h.segs_of (by rw [hv]; rintro m ⟨⟩; simp [hnum])

theorem Inv3.idle (h : Inv3 order nbrs s) (hv : s.visits = []) : s.ancestors = [] ∧ s.stack = [] := by
  have hs := h.segs_of (by simp [hv])
  have hA := hs.frames.nil_iff.2 hv
  rw [hA] at hs
  exact ⟨hA, hs.nil_stack.2⟩

/-- the state at a return marker: the top segment `B ++ [node]` sits above older nodes -/
theorem Inv3.marker (h : Inv3 order nbrs s) {node : Nat} {anc : List Nat} {vs : List (Option Nat)}
    (hv : s.visits = none :: vs) (hA : s.ancestors = node :: anc) :
    ∃ B S0, s.stack = B ++ node :: S0 ∧ (∀ m ∈ nbrs node, EdgeOK s node m) ∧ (∀ x ∈ B, BlackOK nbrs s node x) ∧
      (∀ p, anc.head? = some p → node ∈ nbrs p) ∧ Segs nbrs s anc vs S0 ∧
      (∀ x ∈ B, numOf s node < numOf s x) ∧ (∀ x ∈ S0, numOf s x < numOf s node) := by
  have hs := h.segs_marker hv
  rw [hA] at hs
  obtain ⟨P, V0, B, S0, hV, hS, _, h2, h3, h4, h5⟩ := hs.inv_cons
  cases P with
  | cons q P => cases hV
  | nil =>
    cases hV
    obtain ⟨_, hs2, hs3⟩ := List.pairwise_append.1 (hS ▸ h.sorted)
    exact ⟨B, S0, hS, fun m hm => (h2 m hm).resolve_left List.not_mem_nil, h3, h4, h5,
      fun x hx => hs3 x hx node List.mem_cons_self, (List.pairwise_cons.1 hs2).1⟩

/-- a node that is not the root of its component has its `low` witness strictly below it on the stack -/
theorem Inv3.low_below (h : Inv3 order nbrs s) {node : Nat} {B S0 : List Nat} (hS : s.stack = B ++ node :: S0)
    (hB : ∀ x ∈ B, numOf s node < numOf s x) (hlow : s.low node ≠ numOf s node) :
    ∃ y ∈ S0, numOf s y = s.low node ∧ Reaches nbrs node y := by
  have hn : node ∈ s.stack := by rw [hS]; simp
  have hlt := Nat.lt_of_le_of_ne (h.lowle node hn) hlow
  obtain ⟨y, hy, hyn, hr⟩ := h.lowwit node hn
  refine ⟨y, ?_, hyn, hr⟩
  rw [hS] at hy
  rcases List.mem_append.1 hy with hy | hy
  · have := hB y hy; omega
  · rcases List.mem_cons.1 hy with rfl | hy
    · omega
    · exact hy

/-- a step that only lowers `low`, each lowered value being the number of a reachable stacked node -/
theorem Inv3.lower (h : Inv3 order nbrs s) {s' : St} (hbase : Inv order s')
    (enum : s'.num = s.num) (estack : s'.stack = s.stack) (eout : s'.out = s.out)
    (estacked : s'.stacked = s.stacked) (ecounter : s'.counter = s.counter)
    (hsegs : Segs nbrs s' s'.ancestors s'.visits s.stack)
    (llow : ∀ x, s'.low x ≤ s.low x)
    (wit : ∀ x ∈ s.stack, s'.low x = s.low x ∨ ∃ y ∈ s.stack, numOf s y = s'.low x ∧ Reaches nbrs x y) :
    Inv3 order nbrs s' := by
  obtain ⟨u, num, low, stacked, anc, stack, vis, cnt, out⟩ := s'
  cases enum; cases estack; cases eout; cases estacked; cases ecounter
  exact { h with
    base := hbase
    segs := Or.inl hsegs
    lowle := fun x hx => Nat.le_trans (llow x) (h.lowle x hx)
    lowwit := fun x hx => (wit x hx).elim (fun e => e ▸ h.lowwit x hx) id }

end derived

theorem inv3_pick {order : List Nat} {nbrs : Nat → List Nat} {s : St} (h : Inv3 order nbrs s)
    (hv : s.visits = []) {n : Nat} {rest : List Nat} (hu : s.unvisited = n :: rest) :
    Inv3 order nbrs { s with visits := [some n] } := by
  obtain ⟨hA, hS⟩ := h.idle hv
  have hn : n ∈ s.unvisited := hu ▸ List.mem_cons_self
  have hno : n ∈ order := h.base.perm.subset (by simp [hn])
  exact { h with base := h.base.pick hu, segs := Or.inr ⟨hA, hS, n, rfl, (h.base.unv n hno).2 hn, hn⟩ }

theorem lowerLow_low (s : St) (p v : Nat) :
    (∀ x, (lowerLow s p v).low x ≤ s.low x) ∧ (∀ x, x ≠ p → (lowerLow s p v).low x = s.low x) ∧
    (lowerLow s p v).low p ≤ v ∧ ((lowerLow s p v).low p = s.low p ∨ (lowerLow s p v).low p = v) := by
  unfold lowerLow
  split
  · refine ⟨fun x => ?_, fun x hx => if_neg hx, Nat.le_of_eq (if_pos rfl), Or.inr (if_pos rfl)⟩
    show (if x = p then v else s.low x) ≤ s.low x
    split
    · subst x; omega
    · exact Nat.le_refl _
  · exact ⟨fun _ => Nat.le_refl _, fun _ _ => rfl, by omega, Or.inl rfl⟩

/-- a visit of an already visited node: the frame loses one pending entry, `low` of the top ancestor is
lowered when the node is still on the stack -/
theorem inv3_skip {order : List Nat} {nbrs : Nat → List Nat} (hnd : order.Nodup) {s s' : St}
    (h : Inv3 order nbrs s) (hbase : Inv order s') {node d : Nat} {vs : List (Option Nat)}
    (hv : s.visits = some node :: vs) (hnum : s.num node = some d)
    (hs' : (s.stacked node = false ∧ s' = { s with visits := vs }) ∨
      (s.stacked node = true ∧ ∃ p rest, s.ancestors = p :: rest ∧ s' = lowerLow { s with visits := vs } p d)) :
    Inv3 order nbrs s' := by
  have hsegs := h.segs_visit hv hnum
  obtain ⟨a, A0, hA⟩ := List.exists_cons_of_ne_nil (mt hsegs.frames.nil_iff.1 (List.cons_ne_nil _ _))
  have hedge : node ∈ nbrs a := hsegs.frames.drop.2 a (hA ▸ rfl)
  -- `s'` is `s` with the visit popped and `low a` lowered to `d`, the number of `node`, if `node` is stacked
  obtain ⟨l, rfl, k1, k2, k3, k4⟩ : ∃ l, s' = { s with visits := vs, low := l } ∧ (∀ x, l x ≤ s.low x) ∧
      (∀ x, x ≠ a → l x = s.low x) ∧ (node ∈ s.stack → l a ≤ d) ∧ (l a = s.low a ∨ l a = d ∧ node ∈ s.stack) := by
    rcases hs' with ⟨hst, rfl⟩ | ⟨hst, p, rest, hp, rfl⟩
    · exact ⟨s.low, rfl, fun _ => Nat.le_refl _, fun _ _ => rfl,
        fun hin => absurd ((h.stk node).2 hin) (by simp [hst]), Or.inl rfl⟩
    · cases hA.symm.trans hp
      obtain ⟨k1, k2, k3, k4⟩ := lowerLow_low { s with visits := vs } a d
      exact ⟨_, lowerLow_eq _ _ _, k1, k2, fun _ => k3, k4.imp_right fun e => ⟨e, (h.stk node).1 hst⟩⟩
  have hd : numOf s node = d := by rw [numOf, hnum]; rfl
  have htr : Segs nbrs { s with visits := vs, low := l } s.ancestors (some node :: vs) s.stack :=
    hsegs.transfer (fun _ _ => rfl) (fun _ _ hm => hm) (fun x _ => k1 x)
      (fun x _ hx => k2 x fun e => hx (e ▸ hA ▸ List.mem_cons_self)) h.nodupStack
  refine h.lower hbase rfl rfl rfl rfl rfl (htr.drop fun a' (ha' : s.ancestors.head? = _) => ?_) k1
    (fun x hx => ?_)
  · cases hA ▸ ha'
    exact ⟨hnum ▸ Option.some_ne_none d, fun hin => hd ▸ k3 hin⟩
  · by_cases e : x = a
    · subst e
      exact k4.imp id fun ⟨e, hin⟩ => ⟨node, hin, hd.trans e.symm, Reaches.edge hedge⟩
    · exact Or.inl (k2 x e)

/-- first visit of a node: it becomes the top ancestor with an empty segment -/
theorem inv3_expand {order : List Nat} {nbrs : Nat → List Nat} (hnd : order.Nodup) {s : St}
    (h : Inv3 order nbrs s) {node : Nat} {vs : List (Option Nat)} (hbase : Inv order (expand nbrs s node vs))
    (hv : s.visits = some node :: vs) (hnum : s.num node = none) :
    Inv3 order nbrs (expand nbrs s node vs) := by
  have hne : ∀ m, s.num m ≠ none → m ≠ node := fun m hm e => hm (e ▸ hnum)
  have fnum : ∀ m, m ≠ node → (expand nbrs s node vs).num m = s.num m := fun m hm => if_neg hm
  have flow : ∀ m, m ≠ node → (expand nbrs s node vs).low m = s.low m := fun m hm => if_neg hm
  have fnumn' : (expand nbrs s node vs).num node = some s.counter := if_pos rfl
  have fnumn : numOf (expand nbrs s node vs) node = s.counter := congrArg (Option.getD · 0) fnumn'
  have flown : (expand nbrs s node vs).low node = s.counter := if_pos rfl
  have hlt : ∀ m, s.num m ≠ none → numOf s m < s.counter := by
    intro m hm
    obtain ⟨d, hd⟩ := Option.ne_none_iff_exists'.1 hm
    rw [numOf, hd]
    exact h.numlt m d hd
  have hS : ∀ x ∈ s.stack, s.num x ≠ none := fun x hx => h.base.visited hnd (List.mem_append_left _ hx)
  have fS : ∀ x ∈ s.stack, numOf (expand nbrs s node vs) x = numOf s x ∧ (expand nbrs s node vs).low x = s.low x :=
    fun x hx => ⟨congrArg (Option.getD · 0) (fnum x (hne x (hS x hx))), flow x (hne x (hS x hx))⟩
  have hrest : Segs nbrs (expand nbrs s node vs) s.ancestors vs s.stack ∧
      ∀ p, s.ancestors.head? = some p → node ∈ nbrs p := by
    rcases h.segs with hs | ⟨hA, hS, m, hm, _, _⟩
    · rw [hv] at hs
      have htr : Segs nbrs (expand nbrs s node vs) s.ancestors (some node :: vs) s.stack :=
        hs.transfer (fun m hm => fnum m (hne m hm))
          (fun m hm hin => (List.mem_cons.1 hin).resolve_left (hne m hm))
          (fun x hx => Nat.le_of_eq (fS x (hs.anc_sub x hx)).2) (fun x hx _ => (fS x hx).2) h.nodupStack
      refine ⟨htr.drop fun a ha => ?_, hs.frames.drop.2⟩
      have haS : a ∈ s.stack := hs.anc_sub a (List.mem_of_mem_head? ha)
      refine ⟨fnumn' ▸ Option.some_ne_none _, fun _ => ?_⟩
      rw [fnumn, (fS a haS).2]
      exact Nat.le_of_lt (Nat.lt_of_le_of_lt (h.lowle a haS) (hlt a (hS a haS)))
    · cases hv.symm.trans hm
      rw [hA, hS]
      exact ⟨.nil, fun _ hp => nomatch hp⟩
  refine
    { base := hbase
      segs := Or.inl (.cons (B := []) (fun _ hm => List.mem_reverse.1 hm) (fun _ hm => Or.inl (List.mem_reverse.2 hm))
        (fun _ hx => nomatch hx) hrest.2 hrest.1)
      numlt := fun x d hx => ?numlt
      numinj := fun x y hx hxy => ?numinj
      numOrd := fun x hx => ?numOrd
      stk := fun x => ?stk
      sorted := ?sorted
      lowle := fun x hx => ?lowle
      lowwit := fun x hx => ?lowwit
      closedOut := h.closedOut
      sccs := h.sccs }
  case numlt =>
    by_cases e : x = node
    · cases fnumn'.symm.trans (e ▸ hx)
      exact Nat.lt_succ_self _
    · exact Nat.lt_succ_of_lt (h.numlt x d (fnum x e ▸ hx))
  case numinj =>
    -- the counter is a fresh number
    have hfresh : ∀ m, s.num m ≠ some s.counter := fun m e => Nat.lt_irrefl _ (h.numlt m _ e)
    by_cases ex : x = node <;> by_cases ey : y = node
    · exact ex.trans ey.symm
    · rw [ex, fnumn', fnum y ey] at hxy
      exact absurd hxy.symm (hfresh y)
    · rw [ey, fnumn', fnum x ex] at hxy
      exact absurd hxy (hfresh x)
    · rw [fnum x ex] at hx hxy
      rw [fnum y ey] at hxy
      exact h.numinj x y hx hxy
  case numOrd =>
    by_cases e : x = node
    · exact e ▸ h.base.vis node (hv ▸ List.mem_cons_self)
    · exact h.numOrd x (fnum x e ▸ hx)
  case stk =>
    show upd s.stacked node true x = true ↔ x ∈ node :: s.stack
    by_cases e : x = node
    · simp [upd, e]
    · simp [upd, e, h.stk x]
  case sorted =>
    refine List.Pairwise.cons (fun y hy => ?_) (h.sorted.imp_of_mem fun hx hy hxy => ?_)
    · rw [fnumn, (fS y hy).1]
      exact hlt y (hS y hy)
    · rw [(fS _ hx).1, (fS _ hy).1]
      exact hxy
  case lowle =>
    rcases List.mem_cons.1 hx with rfl | hx
    · rw [flown, fnumn]
      exact Nat.le_refl _
    · rw [(fS x hx).1, (fS x hx).2]
      exact h.lowle x hx
  case lowwit =>
    rcases List.mem_cons.1 hx with rfl | hx
    · exact ⟨x, List.mem_cons_self, fnumn.trans flown.symm, Reaches.refl _⟩
    · obtain ⟨y, hy, hyn, hr⟩ := h.lowwit x hx
      exact ⟨y, List.mem_cons_of_mem _ hy, by rw [(fS y hy).1, (fS x hx).2]; exact hyn, hr⟩

/-- return from a node that is not the root of its component: its segment is merged into the parent's -/
theorem inv3_return_nonroot {order : List Nat} {nbrs : Nat → List Nat} (hnd : order.Nodup) {s s' : St}
    (h : Inv3 order nbrs s) {node p : Nat} {anc' : List Nat} {vs : List (Option Nat)}
    (hv : s.visits = none :: vs) (hA : s.ancestors = node :: p :: anc') (hlow : s.low node ≠ numOf s node)
    (hbase : Inv order s')
    (enum : s'.num = s.num) (estack : s'.stack = s.stack) (eout : s'.out = s.out) (estacked : s'.stacked = s.stacked)
    (ecounter : s'.counter = s.counter) (eanc : s'.ancestors = p :: anc') (evis : s'.visits = vs)
    (llow : ∀ x, s'.low x ≤ s.low x) (olow : ∀ x, x ≠ p → s'.low x = s.low x) (plow : s'.low p ≤ s.low node)
    (clow : s'.low p = s.low p ∨ s'.low p = s.low node) : Inv3 order nbrs s' := by
  obtain ⟨B, S0, hS, hedges, hB, hpe, hrest, hgt, hlt⟩ := h.marker hv hA
  -- `low node` is the number of a node below `node`, which reaches `p`: `node` and `p` reach each other
  obtain ⟨y, hyS0, hyn, hry⟩ := h.low_below hS hgt hlow
  have hnode_p : Reaches nbrs node p := hry.trans (hrest.reach_top p rfl y hyS0)
  have hp_node : Reaches nbrs p node := Reaches.edge (hpe p rfl)
  have hnum : ∀ m, s.num m ≠ none → s'.num m = s.num m := fun m _ => by rw [enum]
  have hstack : ∀ m, s.num m ≠ none → m ∈ s'.stack → m ∈ s.stack := fun m _ hm => estack ▸ hm
  have hndS : (B ++ node :: S0).Nodup := hS ▸ h.nodupStack
  obtain ⟨_, hnd0, hdisj⟩ := List.nodup_append.1 hndS
  obtain ⟨P1, V1, B1, S1, rfl, rfl, g1, g2, g3, g4, g5⟩ :=
    (hrest.transfer hnum hstack (fun x _ => llow x) (fun x _ hx => olow x fun e => hx (e ▸ List.mem_cons_self))
      (List.nodup_cons.1 hnd0).2).inv_cons
  have hpS : p ∈ node :: (B1 ++ p :: S1) := by simp
  have hnp : node ≠ p := fun e => (List.nodup_cons.1 hnd0).1 (e ▸ by simp)
  have hlt' : s.low node < numOf s node := Nat.lt_of_le_of_ne (h.lowle node (by rw [hS]; simp)) hlow
  -- the segment of `node` joins the blacks of `p`
  have hseg' : Segs nbrs s' (p :: anc') (P1.map some ++ none :: V1) ((B ++ node :: B1) ++ p :: S1) := by
    refine .cons g1 g2 (fun x hx => ?_) g4 g5
    rcases List.mem_append.1 hx with hx | hx
    · have hb := hB x hx
      have hxp : s'.low x = s.low x := olow x (hdisj x hx p hpS)
      exact ⟨hb.up.trans hnode_p, hp_node.trans hb.down, hxp ▸ Nat.le_trans plow hb.lowge,
        by rw [hxp, numOf, enum]; exact hb.nonroot,
        fun m hm => (hb.edges m hm).transfer hnum hstack (Nat.le_of_eq hxp)⟩
    · rcases List.mem_cons.1 hx with rfl | hx
      · have hxp : s'.low x = s.low x := olow x hnp
        exact ⟨hnode_p, hp_node, hxp ▸ plow, by rw [hxp, numOf, enum]; exact hlt',
          fun m hm => (hedges m hm).transfer hnum hstack (Nat.le_of_eq hxp)⟩
      · exact g3 x hx
  refine h.lower hbase enum estack eout estacked ecounter ?_ llow (fun x _ => ?_)
  · rw [eanc, evis, hS]
    exact List.append_assoc B (node :: B1) (p :: S1) ▸ hseg'
  · by_cases e : x = p
    · subst e
      exact clow.imp id fun c => ⟨y, by rw [hS]; simp [hyS0], hyn.trans c.symm, hp_node.trans hry⟩
    · exact Or.inl (olow x e)

/-- return from the root of a component: its segment is popped and yielded -/
theorem inv3_return_root {order : List Nat} {nbrs : Nat → List Nat} (hnd : order.Nodup) {s s' : St}
    (h : Inv3 order nbrs s) {node : Nat} {anc : List Nat} {vs : List (Option Nat)} {C R : List Nat}
    (hv : s.visits = none :: vs) (hA : s.ancestors = node :: anc) (hlow : s.low node = numOf s node)
    (hr : popUntil node s.stack [] = (C, R)) (hbase : Inv order s')
    (enum : s'.num = s.num) (ecounter : s'.counter = s.counter) (elow : s'.low = s.low)
    (eanc : s'.ancestors = anc) (evis : s'.visits = vs) (estack : s'.stack = R) (eout : s'.out = C :: s.out)
    (estacked : ∀ x, s'.stacked x = if x ∈ C then false else s.stacked x) : Inv3 order nbrs s' := by
  subst eanc evis estack
  obtain ⟨B, R, hS, hedges, hB, _, hrest, hgt, hlt⟩ := h.marker hv hA
  -- the popped component is the top segment: numbers from `numOf s node` up, the rest of the stack below
  have hnB : node ∉ B := fun hx => Nat.lt_irrefl _ (hgt node hx)
  obtain ⟨rfl, rfl⟩ : C = B ++ [node] ∧ s'.stack = R := Prod.mk.inj (hr.symm.trans (hS ▸ popUntil_append node R hnB []))
  have hC : ∀ x ∈ B ++ [node], x ∈ s.stack ∧ numOf s node ≤ numOf s x ∧ s.low node ≤ s.low x ∧
      Reaches nbrs x node ∧ Reaches nbrs node x ∧ ∀ m ∈ nbrs x, EdgeOK s x m := by
    intro x hx
    rcases List.mem_append.1 hx with hx | hx
    · have hb := hB x hx
      exact ⟨by rw [hS]; simp [hx], Nat.le_of_lt (hgt x hx), hb.lowge, hb.up, hb.down, hb.edges⟩
    · cases List.mem_singleton.1 hx
      exact ⟨by rw [hS]; simp, Nat.le_refl _, Nat.le_refl _, .refl _, .refl _, hedges⟩
  have hsub : s'.stack.Sublist s.stack := hS ▸ (List.sublist_cons_self node _).trans (List.sublist_append_right B _)
  have hR : ∀ x ∈ s'.stack, x ∈ s.stack := fun x hx => hsub.subset hx
  have hsplit : ∀ x ∈ s.stack, x ∈ B ++ [node] ∨ x ∈ s'.stack := fun x hx => by
    rw [hS] at hx
    simpa [or_assoc] using hx
  -- the numbers of the component are above those of what stays on the stack
  have apart : ∀ x ∈ B ++ [node], ∀ z ∈ s'.stack, numOf s z < numOf s x := fun x hx z hz =>
    Nat.lt_of_lt_of_le (hlt z hz) (hC x hx).2.1
  -- an edge from the component leads to a yielded node or, `low` being at least `numOf s node`, back into it
  have hclosed : ∀ x ∈ (B ++ [node]) ++ s.out.flatten, ∀ m ∈ nbrs x, m ∈ (B ++ [node]) ++ s.out.flatten := by
    intro x hx m hm
    rcases List.mem_append.1 hx with hx | hx
    · obtain ⟨_, _, hlx, _, _, hed⟩ := hC x hx
      obtain ⟨hmv, hml⟩ := hed m hm
      have hmo := h.numOrd m hmv
      rcases List.mem_append.1 (h.base.perm.mem_iff.2 hmo) with hm' | hmo
      · rcases List.mem_append.1 hm' with hmu | hms
        · exact absurd ((h.base.unv m hmo).2 hmu) hmv
        · refine List.mem_append_left _ ((hsplit m hms).resolve_right fun hmR => ?_)
          -- `numOf s node = low node ≤ low x ≤ numOf s m < numOf s node`
          have := hml hms
          have := hlt m hmR
          omega
      · exact List.mem_append_right _ hmo
    · exact List.mem_append_right _ (h.closedOut x hx m hm)
  obtain ⟨u, num, low, stacked, anc, R, vs, cnt, out⟩ := s'
  cases enum; cases ecounter; cases elow; cases eout
  refine
    { h with
      base := hbase
      segs := Or.inl (hrest.transfer (fun _ _ => rfl) (fun m _ hm => hR m hm) (fun _ _ => Nat.le_refl _)
        (fun _ _ _ => rfl) (h.nodupStack.sublist hsub))
      stk := fun x => ?stk
      sorted := h.sorted.sublist hsub
      lowle := fun x hx => h.lowle x (hR x hx)
      lowwit := fun x hx => ?lowwit
      closedOut := hclosed
      sccs := fun C' hC' => ?sccs }
  case stk =>
    rw [estacked x]
    by_cases hx : x ∈ B ++ [node]
    · rw [if_pos hx]
      exact ⟨(nomatch ·), fun hxR => absurd (apart x hx x hxR) (Nat.lt_irrefl _)⟩
    · rw [if_neg hx]
      exact (h.stk x).trans ⟨fun hs => (hsplit x hs).resolve_left hx, hR x⟩
  case lowwit =>
    -- the witness has a number `≤` that of `x`, which stays: it stays as well
    obtain ⟨z, hz, hzn, hrz⟩ := h.lowwit x (hR x hx)
    refine ⟨z, (hsplit z hz).resolve_left fun hzC => ?_, hzn, hrz⟩
    have := apart z hzC x hx
    have := h.lowle x (hR x hx)
    omega
  case sccs =>
    rcases List.mem_cons.1 hC' with rfl | hC'
    · intro x hx y
      obtain ⟨hxS, _, _, hxn, hnx, _⟩ := hC x hx
      refine ⟨fun hy => ?_, fun ⟨hxy, hyx⟩ => ?_⟩
      · obtain ⟨_, _, _, hyn, hny, _⟩ := hC y hy
        exact ⟨hxn.trans hny, hyn.trans hnx⟩
      · -- `y` is in the component or was yielded before; then so was `x`, which is on the stack
        refine (List.mem_append.1 (hxy.closed hclosed (List.mem_append_left _ hx))).resolve_right fun hy => ?_
        exact (List.nodup_append.1 (h.base.nodup hnd)).2.2 x (List.mem_append_right _ hxS) x
          (hyx.closed h.closedOut hy) rfl
    · exact h.sccs C' hC'

/-- at the root of a component the parent's `low` is already smaller: folding changes nothing -/
theorem fold_noop_root {order : List Nat} {nbrs : Nat → List Nat} (hnd : order.Nodup) {s : St}
    (h : Inv3 order nbrs s) {node : Nat} {anc : List Nat} {vs : List (Option Nat)}
    (hv : s.visits = none :: vs) (hA : s.ancestors = node :: anc) (hlow : s.low node = numOf s node)
    (X : St) (eanc : X.ancestors = anc) (elow : X.low = s.low) : foldIntoParent X node = X := by
  unfold foldIntoParent
  rw [eanc]
  cases anc with
  | nil => rfl
  | cons p rest =>
    -- the parent is below `node` on the stack: `low p ≤ numOf s p < numOf s node = low node`
    obtain ⟨B, S0, hS, _, _, _, hrest, _, hlt⟩ := h.marker hv hA
    have hp : p ∈ S0 := hrest.anc_sub p List.mem_cons_self
    have := hlt p hp
    have := h.lowle p (by rw [hS]; simp [hp])
    show lowerLow X p (X.low node) = X
    rw [lowerLow, if_neg]
    rw [elow]
    omega

theorem inv3_step {order : List Nat} {nbrs : Nat → List Nat} (hnd : order.Nodup)
    (hclosed : ∀ n, ∀ m ∈ nbrs n, m ∈ order) {s s' : St}
    (h : Inv3 order nbrs s) (hs : step true nbrs s = some s') : Inv3 order nbrs s' := by
  have hbase := inv_step hnd hclosed h.base hs
  cases hs ▸ step_spec nbrs s with
  | pick hv hu => exact inv3_pick h hv hu
  | @root node anc vs C R hv ha hlow hr =>
    rw [fold_noop_root hnd h hv ha hlow _ (by rfl) (by rfl)] at hbase ⊢
    exact inv3_return_root hnd h hv ha hlow hr hbase rfl rfl rfl rfl rfl rfl rfl (fun _ => rfl)
  | @nonroot node anc vs hv ha hlow =>
    cases anc with
    | nil =>
      -- no parent: the stack ends with `node`, leaving no room for the witness of `low node` below it
      obtain ⟨B, S0, hS, _, _, _, hrest, hgt, _⟩ := h.marker hv ha
      obtain ⟨y, hy, _⟩ := h.low_below hS hgt hlow
      cases hrest.nil_stack.2
      cases hy
    | cons p anc' =>
      obtain ⟨l1, l2, l3, l4⟩ := lowerLow_low (popFrame s vs (p :: anc')) p (s.low node)
      rw [foldIntoParent_eq] at hbase ⊢
      exact inv3_return_nonroot hnd h hv ha hlow hbase rfl rfl rfl rfl rfl rfl rfl l1 l2 l3 l4
  | skip hv hnum hst => exact inv3_skip hnd h hbase hv hnum (Or.inl ⟨hst, rfl⟩)
  | skipLow hv hnum hst ha => exact inv3_skip hnd h hbase hv hnum (Or.inr ⟨hst, _, _, ha, rfl⟩)
  | skipOrphan hv hnum _ ha =>
    -- a numbered node is visited from an ancestor
    have hsegs := h.segs_visit hv hnum
    rw [ha] at hsegs
    cases hsegs.nil_stack.1
  | expand hv hnum => exact inv3_expand hnd h hbase hv hnum

theorem run_halted {nbrs : Nat → List Nat} : ∀ (fuel : Nat) (s : St), (run true nbrs fuel s).2 = true →
    step true nbrs (run true nbrs fuel s).1 = none
  | 0, _, h => by simp [run] at h
  | f + 1, s, h => by
    unfold run at h ⊢
    cases hs : step true nbrs s with
    | none => simp [hs]
    | some s' =>
      rw [hs] at h
      exact run_halted f s' h

theorem halted_empty {order : List Nat} {nbrs : Nat → List Nat} {s : St} (h : Inv3 order nbrs s)
    (hs : step true nbrs s = none) : s.unvisited = [] ∧ s.stack = [] := by
  cases hs ▸ step_spec nbrs s with
  | halt hv hu => exact ⟨hu, (h.idle hv).2⟩
  | stuck hv ha =>
    have hsegs := h.segs_marker hv
    rw [ha] at hsegs
    cases hsegs.nil_stack.1

/-- **C20_sccs** — for every graph (neighbour lists inside the node set, no node listed twice) and
every iteration order of nodes and neighbours: `sccs(trivial=True)` terminates, its components together
are a permutation of the nodes, and two nodes share a component iff each reaches the other. -/
theorem C20_sccs (order : List Nat) (nbrs : Nat → List Nat) (hnd : order.Nodup)
    (hclosed : ∀ n, ∀ m ∈ nbrs n, m ∈ order) :
    let t := sccs true order nbrs (fuelFor order nbrs)
    t.2 = true ∧ t.1.flatten.Perm order ∧
    (∀ c ∈ t.1, ∀ x ∈ c, ∀ y, (y ∈ c ↔ Reaches nbrs x y ∧ Reaches nbrs y x)) := by
  have hh := C20_halts order nbrs hnd hclosed
  have hi := run_inv (inv3_step hnd hclosed) (fuelFor order nbrs) (init order) (inv3_init order nbrs)
  obtain ⟨hu, hS⟩ := halted_empty hi (run_halted _ _ hh)
  refine ⟨hh, ?_, fun c hc => hi.sccs c (List.mem_reverse.1 hc)⟩
  have hp := hi.base.perm
  rw [hu, hS] at hp
  exact (List.reverse_perm _).flatten.trans hp

def dropTrivial (nbrs : Nat → List Nat) (s : St) : St :=
  { s with out := s.out.filter (fun c => !isTrivialScc nbrs c) }

theorem lowerLow_dropTrivial (nbrs : Nat → List Nat) (s : St) (p v : Nat) :
    lowerLow (dropTrivial nbrs s) p v = dropTrivial nbrs (lowerLow s p v) := by
  unfold lowerLow dropTrivial
  split <;> rfl

theorem foldIntoParent_dropTrivial (nbrs : Nat → List Nat) (s : St) (node : Nat) :
    foldIntoParent (dropTrivial nbrs s) node = dropTrivial nbrs (foldIntoParent s node) := by
  unfold foldIntoParent
  cases ha : s.ancestors with
  | nil => simp [dropTrivial, ha]
  | cons p rest =>
    have : (dropTrivial nbrs s).ancestors = p :: rest := ha
    simp only [this]
    exact lowerLow_dropTrivial nbrs s _ _

theorem dropTrivial_emit_trivial (nbrs : Nat → List Nat) (s : St) (c : List Nat) (h : isTrivialScc nbrs c = true) :
    dropTrivial nbrs (emit s c) = dropTrivial nbrs s := by
  simp [dropTrivial, emit, h]

theorem dropTrivial_emit_nontrivial (nbrs : Nat → List Nat) (s : St) (c : List Nat) (h : isTrivialScc nbrs c = false) :
    dropTrivial nbrs (emit s c) = emit (dropTrivial nbrs s) c := by
  simp [dropTrivial, emit, h]

/-- one step in default mode = one step in trivial mode, then dropping the trivial components -/
theorem step_false {order : List Nat} {nbrs : Nat → List Nat} (hnd : order.Nodup) {s : St}
    (hinv : Inv3 order nbrs s) :
    step false nbrs (dropTrivial nbrs s) = (step true nbrs s).map (dropTrivial nbrs) := by
  unfold step
  have e1 : (dropTrivial nbrs s).visits = s.visits := rfl
  have e2 : (dropTrivial nbrs s).unvisited = s.unvisited := rfl
  have e3 : (dropTrivial nbrs s).ancestors = s.ancestors := rfl
  have e4 : (dropTrivial nbrs s).num = s.num := rfl
  have e5 : (dropTrivial nbrs s).low = s.low := rfl
  have e6 : (dropTrivial nbrs s).stacked = s.stacked := rfl
  have e7 : (dropTrivial nbrs s).stack = s.stack := rfl
  rw [e1, e2, e3, e4, e5, e6, e7]
  cases hv : s.visits with
  | nil => cases s.unvisited <;> rfl
  | cons v vs =>
    cases v with
    | none =>
      cases ha : s.ancestors with
      | nil => rfl
      | cons node anc =>
        simp only [Bool.not_false, Bool.true_and, Bool.not_true, Bool.false_and, Bool.false_eq_true, if_false]
        have hpf : popFrame (dropTrivial nbrs s) vs anc = dropTrivial nbrs (popFrame s vs anc) := rfl
        have hps : ∀ r, popScc (dropTrivial nbrs (popFrame s vs anc)) r = dropTrivial nbrs (popScc (popFrame s vs anc) r) :=
          fun _ => rfl
        by_cases hroot : s.low node = (s.num node).getD 0
        · simp only [hroot, if_true]
          rw [hpf, hps]
          cases htriv : isTrivialScc nbrs (popUntil node s.stack []).1
          · simp only [Bool.false_eq_true, if_false, Option.map_some]
            rw [← dropTrivial_emit_nontrivial nbrs _ _ htriv, foldIntoParent_dropTrivial]
          · -- default mode `continue`s past the fold into the parent; at a root that fold changes nothing
            simp only [if_true, Option.map_some]
            rw [fold_noop_root hnd hinv hv ha hroot _ (by rfl) (by rfl), dropTrivial_emit_trivial nbrs _ _ htriv]
        · simp only [hroot, if_false, Option.map_some]
          rw [hpf, foldIntoParent_dropTrivial]
    | some node =>
      cases hn : s.num node with
      | none => simp only [hn]; rfl
      | some d =>
        simp only [hn]
        cases hst : s.stacked node
        · rfl
        · simp only [if_true]
          cases ha : s.ancestors with
          | nil => rfl
          | cons p rest =>
            exact congrArg some (lowerLow_dropTrivial nbrs { s with visits := vs, ancestors := p :: rest } p d)

theorem run_false {order : List Nat} {nbrs : Nat → List Nat} (hnd : order.Nodup)
    (hclosed : ∀ n, ∀ m ∈ nbrs n, m ∈ order) :
    ∀ (fuel : Nat) (s : St), Inv3 order nbrs s → run false nbrs fuel (dropTrivial nbrs s) =
      ((dropTrivial nbrs (run true nbrs fuel s).1), (run true nbrs fuel s).2)
  | 0, s, _ => rfl
  | f + 1, s, hi => by
    unfold run
    rw [step_false hnd hi]
    cases hs : step true nbrs s with
    | none => rfl
    | some s' =>
      exact run_false hnd hclosed f s' (inv3_step hnd hclosed hi hs)

/-- **C20_default_mode** — `sccs()` (default mode) yields exactly the components of `sccs(True)` that
are not trivial (more than one node, or a node with a self-loop), in the same order, and halts
exactly when the trivial mode does. -/
theorem C20_default_mode (order : List Nat) (nbrs : Nat → List Nat) (hnd : order.Nodup)
    (hclosed : ∀ n, ∀ m ∈ nbrs n, m ∈ order) (fuel : Nat) :
    (sccs false order nbrs fuel).1 = (sccs true order nbrs fuel).1.filter (fun c => !isTrivialScc nbrs c) ∧
    (sccs false order nbrs fuel).2 = (sccs true order nbrs fuel).2 := by
  unfold sccs
  -- `init order` has yielded nothing, so it is its own `dropTrivial`
  have h : run false nbrs fuel (init order) = _ := run_false hnd hclosed fuel (init order) (inv3_init order nbrs)
  rw [h]
  simp [dropTrivial]

/-- **C20** — the full statement `C20_spec`, for every graph and every iteration order -/
theorem C20_full (order : List Nat) (nbrs : Nat → List Nat) (hnd : order.Nodup)
    (hclosed : ∀ n, ∀ m ∈ nbrs n, m ∈ order) : C20_spec order nbrs := by
  obtain ⟨h1, h2, h3⟩ := C20_sccs order nbrs hnd hclosed
  exact ⟨h1, h2, h3, (C20_default_mode order nbrs hnd hclosed _).1⟩

/-- the hypotheses are satisfiable by a graph with a non-trivial component, a self-loop and an isolated node -/
example : let order := [3, 1, 2, 0]
    let nbrs : Nat → List Nat := fun n => if n = 0 then [1] else if n = 1 then [2, 1] else if n = 2 then [0] else []
    order.Nodup ∧ (∀ n, ∀ m ∈ nbrs n, m ∈ order) ∧
    (sccs true order nbrs (fuelFor order nbrs)).1 = [[3], [0, 2, 1]] := by
  refine ⟨by decide, ?_, by decide⟩
  intro n m hm
  by_cases h0 : n = 0
  · simp [h0] at hm; simp [hm]
  · by_cases h1 : n = 1
    · simp [h1] at hm; rcases hm with e | e <;> simp [e]
    · by_cases h2 : n = 2
      · simp [h2] at hm; simp [hm]
      · simp [h0, h1, h2] at hm

end Ztr.Digraph
