import Ztr.Props.C02
import Ztr.Props.C16
/-! # C16 — `--stop-on-error` at the level of the whole sequential run: nothing more is started, everything is
still cleaned up, the verdict is 'failed' -/
namespace Ztr.Runner
open Ztr.Layers Ztr.Result

/-- **C16_stops_and_cleans_up** — sequential run (`processes ≤ 1`, not a subprocess) under `--stop-on-error`:
once the layer loop has left a failure or an error behind, no layer subprocess is started (the trace gains no
`spawn` event, only the final tear-downs), every layer that was set up is torn down, and the verdict is
'failed'. -/
theorem C16_stops_and_cleans_up (w : World) (hwf : WF w.graph) (o : Opts) (cb : Nat → Bool)
    (hx : o.stopOnError = true) (hj : o.processes ≤ 1)
    (hint : (runProcess w o cb).interrupted = false)
    (hbad : (!(fsLoop w o).1.failures.isEmpty || !(fsLoop w o).1.errors.isEmpty) = true) :
    fsSpawned w o cb = (fsLoop w o).1 ∧
    (runProcess w o cb).leftover = [] ∧
    (runProcess w o cb).failed = true := by
  have h1 : fsSpawned w o cb = (fsLoop w o).1 := by
    unfold fsSpawned
    split
    · exact C16_no_child_after o cb _ _ _ hx hj hbad
    · rfl
  refine ⟨h1, C04_all_torn_down w hwf o cb hint, ?_⟩
  rw [C02_verdict]
  -- the failure / error survives what follows the layer loop
  obtain ⟨new, hl, _⟩ := finalState_logs w o cb
  right
  show (finalState w o cb).failures ≠ [] ∨ (finalState w o cb).errors ≠ []
  rw [hl.failures, hl.errors]
  rcases Bool.or_eq_true_iff.1 hbad with hf | he
  · left
    intro e
    rw [e] at hf
    cases hf
  · right
    intro e
    rw [(List.append_eq_nil_iff.1 e).1] at he
    cases he

end Ztr.Runner
