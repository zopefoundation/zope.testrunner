import Ztr.Props.C13
/-! # C13, attribution: what is shown under a test's name was written by that test, and a failing test's
output is shown completely -/
namespace Ztr.Result
open Ztr.Proto

def From (t : Nat) (W : List Nat) (new : List (Nat × Nat)) : Prop := ∀ p ∈ new, p.1 = t ∧ p.2 ∈ W

theorem From.append {t : Nat} {W : List Nat} {a b : List (Nat × Nat)} (ha : From t W a) (hb : From t W b) :
    From t W (a ++ b) :=
  List.forall_mem_append.2 ⟨ha, hb⟩

def BufInv (s : RS) : Prop := s.captured = false → s.buf = []

/-- what the buffers hold once the streams are restored -/
theorem BufInv.rest {x : RS} (h : BufInv x) : (if x.captured then [] else x.buf) = [] := by
  cases hc : x.captured
  · exact h hc
  · rfl

theorem bufinv_runTest (c : Cfg) (t : TestDef) (s : RS) (hb : Between s) (h : BufInv s) : BufInv (runTest c s t) :=
  runTest_rule (P := BufInv) c t s hb (fun _ => h hb.captured)
    (fun _ _ _ ho hx hcx hx' =>
      step_streams (P := fun cap buf _ => cap = false → buf = []) hx hcx ho (held := fun _ _ _ _ => nofun)
        (leaked := fun _ _ _ h _ => hx' h) (closed := fun _ _ => hx'.rest) (kept := fun _ => hx')
        (failed := fun _ _ => hx'.rest))
    fun _ _ _ _ hx _ => hx.rest

/-- **C13_attributed_test** — whatever a test makes visible (raw or inside a failure/error report) is
shown under that test's own name and was written by that test: nothing of an earlier test is left in
the buffers when it starts. -/
theorem C13_attributed_test (c : Cfg) (t : TestDef) (s : RS) (hbt : Between s) (hbi : BufInv s) :
    ∃ new, shown (runTest c s t).evs = shown s.evs ++ new ∧ From t.id (written (Proto.run t)) new := by
  rcases runTest_shown c t s hbt with ⟨h, -⟩ | ⟨h, -⟩
  · exact ⟨[], by rw [h, List.append_nil], List.forall_mem_nil _⟩
  · have he : withHeld t.id (enter c t s) = shown s.evs := by
      simp [withHeld, shown_enter, show (enter c t s).buf = [] from hbi hbt.captured]
    refine ⟨_, he ▸ h, fun p hp => ?_⟩
    obtain ⟨k, hk, rfl⟩ := List.mem_map.1 hp
    exact ⟨rfl, hk⟩

/-- **C13_attribution** — in a whole layer run, every token that reaches the output is shown under
the name of a test of the run that wrote it. -/
theorem C13_attribution (c : Cfg) : ∀ (ts : List TestDef) (s : RS), Between s → BufInv s →
    ∃ new, shown (runTests c ts s).evs = shown s.evs ++ new ∧
      ∀ p ∈ new, ∃ t ∈ ts, t.id = p.1 ∧ p.2 ∈ written (Proto.run t) := by
  intro ts s hb hi
  refine (runTests_inv (P := fun x => BufInv x ∧ ∃ new, shown x.evs = shown s.evs ++ new ∧
    ∀ p ∈ new, ∃ t ∈ ts, t.id = p.1 ∧ p.2 ∈ written (Proto.run t)) c ts s ?_ hb
    ⟨hi, [], (List.append_nil _).symm, List.forall_mem_nil _⟩).2.2
  rintro t ht x hx ⟨hxi, n1, e1, f1⟩
  obtain ⟨n2, e2, f2⟩ := C13_attributed_test c t x hx hxi
  refine ⟨bufinv_runTest c t x hx hxi, n1 ++ n2, by rw [e2, e1, List.append_assoc], ?_⟩
  exact List.forall_mem_append.2 ⟨f1, fun p hp => ⟨t, ht, (f2 p hp).1.symm, (f2 p hp).2⟩⟩

/-- **C13_failing_shown** — a test that records a failure or an error (also in a sub-test, also an
unexpected success) has everything it wrote, in any phase, made visible under its own name: inside
the first report what was captured until then, raw what it writes afterwards.  With and without
`--buffer`. -/
theorem C13_failing_shown (c : Cfg) (t : TestDef) (s : RS) (hbt : Between s)
    (hbad : ∃ op ∈ Proto.run t, IsBadOp op) :
    ∀ k ∈ written (Proto.run t), (t.id, k) ∈ shown (runTest c s t).evs := by
  intro k hk
  rcases runTest_shown c t s hbt with ⟨-, -, hq⟩ | ⟨h, -⟩
  · obtain ⟨op, ho, hb⟩ := hbad
    exact absurd hb (hq op ho)
  · rw [h]
    exact List.mem_append_right _ (List.mem_map_of_mem hk)

/-- the hypotheses are met by a concrete failing test that writes before and after its failing
sub-test, and the conclusion is what one expects: both tokens are visible under its name -/
example :
    let t : TestDef := { id := 1, subs := [{ writes := [(false, 7)], exc := some .fail }],
                         tearDown := { writes := [(true, 8)] } }
    let c : Cfg := { buffer := true, stopOnError := false, hooksUp := [0], hooksDown := [0] }
    (∃ op ∈ Proto.run t, IsBadOp op) ∧ written (Proto.run t) = [7, 8] ∧
      shown (runTest c {} t).evs = [(1, 7), (1, 8)] := by
  refine ⟨⟨.addSubTest (some .fail), by decide, trivial⟩, by decide, by decide⟩

end Ztr.Result
