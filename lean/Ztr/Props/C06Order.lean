import Ztr.Props.C06
/-!
# C06 — the failure / error lists of a `-j N` run are the layers' lists in layer order

Since 4ea7031 a worker thread appends the outcomes its layer subprocess reported to lists that belong to the
layer's *result object* (`result.outcomes`), before it sets `result.done`; the parent's display loop
(`while current_result and current_result.done`) appends them to the lists of the run right after it has
written the layer's block.  In `Model/Sched` that is exactly the life of a line of `result.stdout`
(label `line i x`: appended to child `i`'s buffer while it runs and is not done; moved out by `printDone`).
An outcome is therefore a line of a second kind (`isOutcome`), and the lists of the run are the outcome
lines of the blocks printed so far. -/
namespace Ztr.Sched

/-- the lists of the run: the outcome lines of the blocks displayed so far -/
def merged (isOutcome : Line → Bool) (s : SS) : List Line := (s.printed.flatMap (·.2)).filter isOutcome

theorem printed_eq (n k : Nat) (ls : List Label) :
    let s := exec ls (init n k)
    s.printed = (List.range s.cur).map (fun i => (i, s.buf i)) :=
  (reach_exec n k ls).shown

/-- **C06_outcomes_in_layer_order** — the run's lists are the outcome lines of children `0 … cur-1`, child by
child in layer order, whatever order the children finish in and however their reports interleave. -/
theorem C06_outcomes_in_layer_order (n k : Nat) (ls : List Label) (isOutcome : Line → Bool) :
    let s := exec ls (init n k)
    merged isOutcome s = ((List.range s.cur).flatMap s.buf).filter isOutcome := by
  intro s
  unfold merged
  rw [printed_eq n k ls]
  simp only [List.flatMap_map]
  rfl

/-- **C06_outcomes_complete** — when every block is out, the lists of the run are those of all the children in
layer order. -/
theorem C06_outcomes_complete (n k : Nat) (ls : List Label) (isOutcome : Line → Bool)
    (h : (exec ls (init n k)).cur = k) :
    merged isOutcome (exec ls (init n k)) = ((List.range k).flatMap (exec ls (init n k)).buf).filter isOutcome := by
  have := C06_outcomes_in_layer_order n k ls isOutcome
  rw [this, h]

/-- **C06_all_displayed** — once every child is done, one pass of the display loop has written every block (and, by
`C06_outcomes_complete`, merged every layer's outcomes): nothing a finished child reported stays behind. -/
theorem C06_all_displayed (s : SS) (hle : s.cur ≤ s.k) (hall : ∀ i, i < s.k → s.doneF i = true) :
    (printDone (s.k - s.cur) s).cur = s.k := by
  obtain ⟨m, hm, e, _, hB⟩ := printDone_eq (s.k - s.cur) s
  rw [e]
  show s.cur + m = s.k
  rcases Nat.lt_or_ge m (s.k - s.cur) with hlt | hge
  · have := Nat.add_comm .. ▸ Nat.add_lt_of_lt_sub hlt
    exact absurd ⟨this, hall _ this⟩ (hB hlt)
  · rw [Nat.le_antisymm hm hge, Nat.add_sub_cancel' hle]

/-- the code before 4ea7031: a worker thread appended to the lists of the run itself, when its child reported -/
def mergedOld (isOutcome : Line → Bool) (ls : List Label) : List Line :=
  ls.filterMap (fun l => match l with
    | .line _ x => if isOutcome x then some x else none
    | _ => none)

/-- two children, `-j 2`; child 1 reports its failure (line 21) before child 0 reports its own (line 20) -/
def d46Schedule : List Label :=
  [.iter, .line 1 21, .done 1, .dead 1, .iter, .line 0 20, .done 0, .dead 0, .iter]

/-- **C06_D46_witness** — the code before 4ea7031 appended in completion order: for the schedule "child 1
reports before child 0" it lists child 1's failure first. -/
theorem C06_D46_witness :
    mergedOld (fun _ => true) d46Schedule = [21, 20] ∧
    merged (fun _ => true) (exec d46Schedule (init 2 2)) = [20, 21] ∧ (exec d46Schedule (init 2 2)).cur = 2 := by
  decide

end Ztr.Sched
