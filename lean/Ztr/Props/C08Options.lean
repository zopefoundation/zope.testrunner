import Ztr.Model.Options
/-
C08, the glue in front of the predicate: the patterns `build_filtering_func` gets for `--test` and
`--module` are exactly the patterns given - the option values in command-line order, then the positional
filter - and the default `['.']` only when none was given.
-/
namespace Ztr.Options

/-- the test patterns given on the command line: option values, then the positional filter -/
def givenTest {P : Type} (r : Raw P) : List P := r.test ++ r.legacyTest.toList

/-- the module patterns given: option values, then the positional filter unless it is the no-op '.' -/
def givenModule {P : Type} [DecidableEq P] (dot : P) (r : Raw P) : List P :=
  r.module ++ (r.legacyModule.toList.filter (fun m => m ≠ dot))

/-- **C08O_test_given** - the test filter gets exactly the given patterns; `['.']` iff none was given. -/
theorem C08O_test_given {P : Type} [DecidableEq P] (dot : P) (r : Raw P) (h : r.WF) :
    (filters dot r).2 = orDot dot (givenTest r) := by
  unfold filters givenTest
  cases hm : r.legacyModule with
  | none =>
    have : r.legacyTest = none := by
      cases ht : r.legacyTest with
      | none => rfl
      | some t => have := h (by simp [ht]); simp [hm] at this
    simp [this]
  | some m =>
    cases ht : r.legacyTest <;> simp

/-- **C08O_module_given** - likewise for the module filter (a positional '.' stands for "no filter"). -/
theorem C08O_module_given {P : Type} [DecidableEq P] (dot : P) (r : Raw P) :
    (filters dot r).1 = orDot dot (givenModule dot r) := by
  unfold filters givenModule
  cases hm : r.legacyModule with
  | none => simp
  | some m =>
    by_cases e : m = dot
    · simp [e]
    · simp [e]

/-- **C08O_test_kept** - no given test pattern is dropped. -/
theorem C08O_test_kept {P : Type} [DecidableEq P] (dot : P) (r : Raw P) (h : r.WF) (p : P)
    (hp : p ∈ givenTest r) : p ∈ (filters dot r).2 := by
  rw [C08O_test_given dot r h]
  unfold orDot
  split
  · rename_i he
    simp only [List.isEmpty_iff] at he
    rw [he] at hp
    exact absurd hp List.not_mem_nil
  · exact hp

/-- **C08O_D37_witness** - `'' foo` with the code before 754845a: the positional test filter `foo` vanishes
(every test is selected); the repaired code hands it on.  Patterns: 0 = '.', 1 = '', 2 = 'foo'. -/
theorem C08O_D37_witness :
    (filtersOld 0 1 ({ legacyModule := some 1, legacyTest := some 2 } : Raw Nat)).2 = [0] ∧
      (filters 0 ({ legacyModule := some 1, legacyTest := some 2 } : Raw Nat)) = ([1], [2]) := by
  decide

example : ({ legacyModule := some 1, legacyTest := some 2 } : Raw Nat).WF := by simp [Raw.WF]

end Ztr.Options
