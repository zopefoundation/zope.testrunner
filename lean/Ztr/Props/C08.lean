import Ztr.Model.Filter
/-! # C08 — filter patterns select by any positive match and no negated match -/
namespace Ztr.Filter

variable {P N : Type}

theorem split_eq (ps : List (Bool × P)) : split ps = (pos ps, neg ps) := by
  suffices h : ∀ (a b : List P), ps.foldl
      (fun acc x => if x.1 then (acc.1, acc.2 ++ [x.2]) else (acc.1 ++ [x.2], acc.2)) (a, b)
      = (a ++ pos ps, b ++ neg ps) from h [] []
  induction ps with
  | nil => intro a b; simp [pos, neg]
  | cons x xs ih =>
    intro a b
    rcases x with ⟨b', p⟩
    cases b' <;> simp [List.foldl, ih, pos, neg]

/-- **C08_spec** — the code's predicate, for every pattern list, matrix and name. -/
theorem C08_spec (m : P → N → Bool) (dot : N → Bool) (ps : List (Bool × P)) (n : N) :
    accept m dot ps n = true ↔
      ((∃ p ∈ pos ps, m p n = true) ∨ (pos ps = [] ∧ neg ps ≠ [] ∧ dot n = true))
        ∧ ¬ ∃ q ∈ neg ps, m q n = true := by
  unfold accept
  rw [split_eq]
  simp only [Bool.and_eq_true, Bool.not_eq_true', List.any_eq_false, List.any_eq_true]
  refine and_congr ?_ (by simp only [not_exists, not_and])
  split
  · rename_i h
    rw [List.isEmpty_iff, List.isEmpty_eq_false_iff] at h
    simp [h.1, h.2]
  · rename_i h
    rw [List.isEmpty_iff, List.isEmpty_eq_false_iff] at h
    simp only [List.mem_map]
    exact ⟨fun ⟨_, ⟨a, ha, e⟩, hx⟩ => Or.inl ⟨a, ha, e ▸ hx⟩,
      fun h' => h'.elim (fun ⟨p, hp, hm⟩ => ⟨_, ⟨p, hp, rfl⟩, hm⟩) fun ⟨a, b, _⟩ => absurd ⟨a, b⟩ h⟩

/-- The property's sentence verbatim, for names on which `.` matches (every name with a
non-newline character: every module, layer and unittest test id). -/
theorem C08_spec_guarded (m : P → N → Bool) (dot : N → Bool) (ps : List (Bool × P)) (n : N)
    (hdot : dot n = true) :
    accept m dot ps n = true ↔
      ((∃ p ∈ pos ps, m p n = true) ∨ (pos ps = [] ∧ neg ps ≠ []))
        ∧ ¬ ∃ q ∈ neg ps, m q n = true := by
  rw [C08_spec, hdot]
  simp only [and_true]

theorem mem_pos {ps : List (Bool × P)} {p : P} : p ∈ pos ps ↔ (false, p) ∈ ps := by
  simp [pos]

theorem mem_neg {ps : List (Bool × P)} {q : P} : q ∈ neg ps ↔ (true, q) ∈ ps := by
  simp [neg]

theorem accept_congr (m : P → N → Bool) (dot : N → Bool) {ps ps' : List (Bool × P)} (n : N)
    (h : ∀ x, x ∈ ps ↔ x ∈ ps') : accept m dot ps n = accept m dot ps' n := by
  rw [Bool.eq_iff_iff, C08_spec, C08_spec]
  simp only [List.eq_nil_iff_forall_not_mem, Ne, mem_pos, mem_neg, h]

/-- **C08_perm** — the result does not depend on pattern order. -/
theorem C08_perm (m : P → N → Bool) (dot : N → Bool) {ps ps' : List (Bool × P)} (n : N)
    (h : ps.Perm ps') : accept m dot ps n = accept m dot ps' n :=
  accept_congr m dot n fun _ => h.mem_iff

/-- **C08_dup** — repeating a pattern changes nothing (only membership matters). -/
theorem C08_dup (m : P → N → Bool) (dot : N → Bool) (ps : List (Bool × P)) (x : Bool × P) (n : N)
    (hx : x ∈ ps) : accept m dot (x :: ps) n = accept m dot ps n :=
  accept_congr m dot n fun _ => List.mem_cons.trans ⟨fun h => h.elim (· ▸ hx) id, Or.inr⟩

/-- **C08_neg_never_selects** — adding a '!'-pattern to a non-empty pattern list never selects a
name that was not selected before.  (From the empty list — "nothing selected" — to one
'!'-pattern — "only '!'-patterns were given" — names do become selected: that is the statement's own
first sentence; the command line never produces the empty list: `C08O_test_given`, `Props/C08Options`.) -/
theorem C08_neg_never_selects (m : P → N → Bool) (dot : N → Bool) (ps : List (Bool × P)) (q : P)
    (n : N) (hne : ps ≠ []) (hdot : dot n = true)
    (h : accept m dot ((true, q) :: ps) n = true) : accept m dot ps n = true := by
  rw [C08_spec] at h ⊢
  obtain ⟨h1, h2⟩ := h
  refine ⟨h1.imp_right fun ⟨hp, _, _⟩ => ⟨hp, fun hn => ?_, hdot⟩,
    fun ⟨r, hr, hm⟩ => h2 ⟨r, List.mem_cons_of_mem _ hr, hm⟩⟩
  obtain ⟨⟨b, p⟩, hx⟩ := List.exists_mem_of_ne_nil ps hne
  cases b
  · exact List.ne_nil_of_mem (mem_pos.2 hx) hp
  · exact List.ne_nil_of_mem (mem_neg.2 hx) hn

/-- **C08_pos_monotone** — adding a positive pattern never deselects anything, provided a positive
pattern was already present. -/
theorem C08_pos_monotone (m : P → N → Bool) (dot : N → Bool) (ps : List (Bool × P)) (p : P) (n : N)
    (hpos : pos ps ≠ []) (h : accept m dot ps n = true) :
    accept m dot ((false, p) :: ps) n = true := by
  rw [C08_spec] at h ⊢
  exact ⟨h.1.elim (fun ⟨r, hr, hm⟩ => Or.inl ⟨r, List.mem_cons_of_mem _ hr, hm⟩)
    fun ⟨a, _⟩ => absurd a hpos, h.2⟩

/-- The corner the "consequently" clause glosses over: with only '!'-patterns everything unmatched
is selected, and adding a positive pattern then deselects.  Code and the statement's first sentence
agree here, so this is not a finding. -/
theorem C08_pos_monotone_corner :
    ∃ (m : Nat → Nat → Bool) (dot : Nat → Bool) (ps : List (Bool × Nat)) (p n : Nat),
      accept m dot ps n = true ∧ accept m dot ((false, p) :: ps) n = false :=
  ⟨fun p n => p == n, fun _ => true, [(true, 0)], 2, 1, by decide, by decide⟩

/-- D13: the excluded point of `C08_spec_guarded`: only '!'-patterns, a name `.` does not match. -/
theorem C08_D13_witness :
    ∃ (m : Nat → Nat → Bool) (dot : Nat → Bool) (ps : List (Bool × Nat)) (n : Nat),
      pos ps = [] ∧ neg ps ≠ [] ∧ (¬ ∃ q ∈ neg ps, m q n = true) ∧ accept m dot ps n = false :=
  ⟨fun _ _ => false, fun _ => false, [(true, 0)], 0, by decide, by decide, by simp [neg], by decide⟩

-- non-vacuity: a list with positives, negatives and duplicates meets every hypothesis used above
example : accept (fun p n => p == n) (fun _ => true) [(false, 1), (true, 2), (false, 1)] 1 = true ∧
    pos [(false, 1), (true, 2), (false, 1)] ≠ ([] : List Nat) := by decide

end Ztr.Filter
