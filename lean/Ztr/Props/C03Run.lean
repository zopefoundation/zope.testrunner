import Ztr.Props.C03
import Ztr.Props.C12
/-! # C03 — exactly the selected tests run, once each (execution side)

`Props/C03` shows that the layer loop visits every registered layer once, with its registered test
list.  Here: what a visit executes, and where. -/
namespace Ztr.Result
open Ztr.Proto

/-- the ids of the tests entered, in order -/
def tstartIds : List REv → List Nat
  | [] => []
  | .tstart t :: r => t :: tstartIds r
  | _ :: r => tstartIds r

theorem tstartIds_append (a b : List REv) : tstartIds (a ++ b) = tstartIds a ++ tstartIds b := by
  induction a with
  | nil => rfl
  | cons e r ih => cases e <;> simp [tstartIds, ih]

theorem tstartIds_quiet {new : List REv} (evs : List REv) (h : tstartIds new = []) :
    tstartIds (evs ++ new) = tstartIds evs := by
  rw [tstartIds_append, h, List.append_nil]

theorem tstartIds_map {α : Type} (g : α → REv) (h : ∀ x, tstartIds [g x] = []) (l : List α) :
    tstartIds (l.map g) = [] := by
  induction l with
  | nil => rfl
  | cons x xs ih => rw [List.map_cons, ← List.singleton_append, tstartIds_append, h, ih]; rfl

theorem step_tstartIds (c : Cfg) (t : TestDef) (s : RS) (op : Op) :
    tstartIds (step c t s op).evs = tstartIds s.evs := by
  refine step_cases c t s op
    (same := fun _ => rfl) (abort := fun _ => rfl) (abortRestored := fun _ => rfl)
    (start := fun _ => tstartIds_quiet _ (tstartIds_map _ (fun _ => rfl) _))
    (stop := fun _ => tstartIds_quiet _ (tstartIds_map _ (fun _ => rfl) _))
    (held := fun _ _ _ _ => tstartIds_quiet _ rfl)
    (leaked := fun _ ws _ _ => (tstartIds_quiet _ (tstartIds_map _ (fun _ => rfl) ws)).trans (tstartIds_quiet _ rfl))
    (passed := fun _ => tstartIds_quiet _ rfl)
    (skip := fun _ _ => tstartIds_quiet _ rfl)
    (fallback := fun _ _ => (tstartIds_quiet _ rfl).trans (tstartIds_quiet _ (tstartIds_map _ (fun _ => rfl) _)))
    (bad := fun b _ => ?bad)
    (mark := fun _ => rfl)
  rw [bad_eq]
  exact tstartIds_quiet _ rfl

theorem runTest_tstartIds (c : Cfg) (t : TestDef) (s : RS) :
    tstartIds (runTest c s t).evs = tstartIds s.evs ++ [t.id] := by
  have h : tstartIds ((run t).foldl (step c t) (s.emit (.tstart t.id))).evs = tstartIds s.evs ++ [t.id] :=
    List.foldlRecOn (run t) (step c t) (motive := fun x => tstartIds x.evs = _)
      (tstartIds_append s.evs [.tstart t.id]) fun x hx op _ => (step_tstartIds c t x op).trans hx
  exact (tstartIds_quiet _ rfl).trans h

/-- **C03_tests_started** — the tests entered by the loop are exactly `startedTests`, in order: no
test outside the list, none twice. -/
theorem C03_tests_started (c : Cfg) : ∀ (ts : List TestDef) (s : RS),
    tstartIds (runTests c ts s).evs = tstartIds s.evs ++ (startedTests c ts s).map (·.id)
  | [], s => by simp [runTests, startedTests]
  | t :: ts, s => by
    unfold runTests startedTests
    split
    · simp
    · rw [C03_tests_started c ts, runTest_tstartIds]
      simp

/-- a test through which no KeyboardInterrupt propagates (a decidable property of its script) -/
def Quiet (t : TestDef) : Prop := ∀ op ∈ run t, op ≠ .raiseInterrupt

theorem runTest_flags (c : Cfg) (t : TestDef) (s : RS) (hc : c.stopOnError = false) (hq : Quiet t)
    (h1 : s.shouldStop = false) (h2 : s.interrupted = false) :
    (runTest c s t).shouldStop = false ∧ (runTest c s t).interrupted = false := by
  unfold runTest
  refine List.foldlRecOn (run t) (step c t) (motive := fun x => x.shouldStop = false ∧ x.interrupted = false)
    (b := s.emit _) ⟨h1, h2⟩ fun x hx op hop => ⟨?_, (step_interrupted c t x op (hq op hop)).trans hx.2⟩
  rcases step_shouldStop c t x op with e | e
  · exact e.trans hx.1
  · rw [e, hx.1, hc]
    rfl

theorem runTests_quiet (c : Cfg) (hc : c.stopOnError = false) : ∀ (ts : List TestDef) (s : RS),
    (∀ t ∈ ts, Quiet t) → Between s → s.shouldStop = false → s.interrupted = false →
    (runTests c ts s).shouldStop = false ∧ (runTests c ts s).interrupted = false :=
  fun ts s hq hb h1 h2 => (runTests_inv (P := fun x => x.shouldStop = false ∧ x.interrupted = false) c ts s
    (fun t ht x _ hx => runTest_flags c t x hc (hq t ht) hx.1 hx.2) hb ⟨h1, h2⟩).2

/-- **C03_all_started** — without `--stop-on-error`, and if no KeyboardInterrupt propagates out of a
test, the loop starts every test of the list (whatever else the tests raise). -/
theorem C03_all_started (c : Cfg) (hc : c.stopOnError = false) : ∀ (ts : List TestDef) (s : RS),
    (∀ t ∈ ts, Quiet t) → Between s → s.shouldStop = false → s.interrupted = false →
    startedTests c ts s = ts
  | [], _, _, _, _, _ => rfl
  | t :: ts, s, hq, hb, h1, h2 => by
    unfold startedTests
    simp only [h1, hb.aborted, h2, Bool.or_self, Bool.false_eq_true, if_false]
    obtain ⟨f1, f2⟩ := runTest_flags c t s hc (hq t (by simp)) h1 h2
    rw [C03_all_started c hc ts _ (fun x hx => hq x (by simp [hx])) (runTest_between c t s hb) f1 f2]

end Ztr.Result

namespace Ztr.Runner
open Ztr.Layers Ztr.Result

/-- the ids of the tests entered in a process trace, in order -/
def tstartIdsEv (τ : List Ev) : List Nat :=
  tstartIds (τ.filterMap (fun e => match e with | .test r => some r | _ => none))

theorem tstartIdsEv_append (a b : List Ev) : tstartIdsEv (a ++ b) = tstartIdsEv a ++ tstartIdsEv b := by
  unfold tstartIdsEv
  rw [List.filterMap_append, tstartIds_append]

theorem tstartIdsEv_tests (evs : List REv) : tstartIdsEv (evs.map Ev.test) = tstartIds evs := by
  unfold tstartIdsEv
  congr 1
  induction evs with
  | nil => rfl
  | cons e r ih => simp [ih]

/-- **C03_iterations_execute** — `--repeat n` without `-x`, no KeyboardInterrupt: the test phase of a
layer enters exactly the layer's registered tests, in their listing order, `n` times over — nothing
else, nothing twice within an iteration. -/
theorem C03_iterations_execute (w : World) (o : Opts) (l : Nat) (tests : List Proto.TestDef)
    (hx : o.stopOnError = false) (hq : ∀ t ∈ tests, Quiet t) :
    ∀ (n : Nat) (s : PS), tstartIdsEv (runIterations w o l tests n s).trace =
      tstartIdsEv s.trace ++ (List.replicate n (tests.map (·.id))).flatten := by
  intro n s
  rw [(runIterations_extends w o l tests n s).trace, tstartIdsEv_append]
  congr 1
  have hc : (resultCfg w o l).stopOnError = false := hx
  obtain ⟨hs, hi⟩ := runTests_quiet (resultCfg w o l) hc tests {} hq between_init rfl rfl
  -- one iteration enters every test of the list, and the iterations go on
  have hiter : tstartIdsEv (iterDelta w o l tests).trace = tests.map (·.id) := by
    simp only [iterDelta, tstartIdsEv_append, tstartIdsEv_tests, C03_tests_started,
      C03_all_started _ hc tests {} hq between_init rfl rfl]
    simp [tstartIdsEv, tstartIds]
  induction n with
  | zero => rfl
  | succ n ih =>
    unfold layerDelta
    simp only [runTests_not_aborted, hi, hs, Bool.false_eq_true, if_false, Delta.append, tstartIdsEv_append, hiter, ih,
      List.replicate_succ, List.flatten_cons]


/-- `s'` has the ghost log of `s` and more, every test event of which was logged while running a layer of `ls` -/
def TestsAmong (ls : List Nat) (s s' : PS) : Prop :=
  ∃ new, s'.glog = s.glog ++ new ∧ ∀ p ∈ new, ∀ r, p.1 = Ev.test r → ∃ l ∈ ls, p.2.layer = some l

theorem TestsAmong.refl (ls : List Nat) (s : PS) : TestsAmong ls s s := ⟨[], by simp, by simp⟩

theorem TestsAmong.trans {ls : List Nat} {a b c : PS} (h1 : TestsAmong ls a b) (h2 : TestsAmong ls b c) :
    TestsAmong ls a c := by
  obtain ⟨n1, e1, t1⟩ := h1
  obtain ⟨n2, e2, t2⟩ := h2
  exact ⟨n1 ++ n2, by rw [e2, e1, List.append_assoc], fun p hp => (List.mem_append.1 hp).elim (t1 p) (t2 p)⟩

theorem TestsAmong.mono {ls ls' : List Nat} {s s' : PS} (h : TestsAmong ls s s') (hs : ∀ x ∈ ls, x ∈ ls') :
    TestsAmong ls' s s' := by
  obtain ⟨new, e, t⟩ := h
  exact ⟨new, e, fun p hp r hr => by obtain ⟨x, hx, hl⟩ := t p hp r hr; exact ⟨x, hs x hx, hl⟩⟩

theorem TestsAmong.of_logs {cb : Nat → Bool} {s s' : PS} {new : List (Ev × Snap)} (ls : List Nat) (hl : Logs cb s s' new)
    (hn : ∀ p ∈ new, ∀ r, p.1 ≠ Ev.test r) : TestsAmong ls s s' :=
  ⟨new, hl.glog, fun p hp r hr => absurd hr (hn p hp r)⟩

-- from here on `run_layer`'s callees stay folded, as in `Lemmas/Runner` (where the reason is given)
attribute [local irreducible] runIterations setupLayer tearDownUnneeded

theorem testsAmong_layerLoop (w : World) (o : Opts) :
    ∀ (layers : List (Nat × List Proto.TestDef)) (s : PS),
      ∃ pre, layers = pre ++ (layerLoop w o layers s).2 ∧ TestsAmong (pre.map (·.1)) s (layerLoop w o layers s).1
  | [], s => ⟨[], by simp [layerLoop], TestsAmong.refl _ s⟩
  | (l, tests) :: rest, s => by
    obtain ⟨new, hl⟩ := runLayer_logs w o l tests s
    have h1 : ∀ ls, l ∈ ls → TestsAmong ls s (runLayer w o l tests s).1 := fun ls hm =>
      ⟨new, hl.glog, fun p hp r e => ⟨l, hm, hl.tests p hp r e⟩⟩
    refine layerLoop_cases w o l tests rest s
      (P := fun s' left => ∃ pre, (l, tests) :: rest = pre ++ left ∧ TestsAmong (pre.map (·.1)) s s') ?_ ?_ ?_ ?_
    · exact ⟨(l, tests) :: rest, by simp, h1 _ List.mem_cons_self⟩
    · exact fun hcan _ => ⟨[], rfl, new, hl.glog, fun p hp r e => absurd e (ne_test_of_isRun (hl.quiet hcan p hp) r)⟩
    · exact fun _ => ⟨[(l, tests)], rfl, h1 _ List.mem_cons_self⟩
    · intro _
      obtain ⟨pre, e2, t2⟩ := testsAmong_layerLoop w o rest (runLayer w o l tests s).1
      exact ⟨(l, tests) :: pre, by rw [List.cons_append, ← e2],
        (h1 _ List.mem_cons_self).trans (t2.mono fun x hx => List.mem_cons_of_mem _ hx)⟩

theorem tests_in_consumed (w : World) (o : Opts) (cb : Nat → Bool) :
    ∃ pre, orderedLayers w o = pre ++ (fsLoop w o).2 ∧
      ∀ p ∈ (finalState w o cb).glog, ∀ r, p.1 = Ev.test r → ∃ l ∈ pre.map (·.1), p.2.layer = some l := by
  obtain ⟨pre, epre, tl⟩ : ∃ pre, orderedLayers w o = pre ++ (fsLoop w o).2 ∧ TestsAmong (pre.map (·.1)) {} (fsLoop w o).1 := by
    unfold fsLoop fsStart
    split
    · exact ⟨[], (List.nil_append _).symm, .of_logs _ (logs_emit cb {} _ rfl) (by simp)⟩
    · exact testsAmong_layerLoop w o _ _
  refine ⟨pre, epre, ?_⟩
  obtain ⟨_, hl, hk⟩ := finalState_logs w o cb
  obtain ⟨new, e, t⟩ := tl.trans (.of_logs _ hl fun p hp => ne_test_of_isRun (hk p hp))
  rw [e]
  exact t

/-- **C03_parent_tests_not_in_children** — in the parent (or sequential) process every test event
belongs to a layer that the layer loop consumed itself; the layers it hands to `resume_tests` (from
the one that hit `CanNotTearDown` on; all of them under `-j`) contribute no test event to the parent.
With `C03_layers_once` (no layer is registered twice) a test therefore never runs both in the parent
and in a child. -/
theorem C03_parent_tests_not_in_children (w : World) (o : Opts) (cb : Nat → Bool) (hr : o.resume = none) :
    ∃ pre, orderedLayers w o = pre ++ (fsLoop w o).2 ∧
      ∀ p ∈ (finalState w o cb).glog, ∀ r, p.1 = Ev.test r → ∃ l ∈ pre.map (·.1), p.2.layer = some l :=
  tests_in_consumed w o cb

/-- **C03_child_only_own_layer** — a child process (`--resume-layer L`) emits test events for layer
`L` only: every test runs under its own layer, in the one process that was started for that layer. -/
theorem C03_child_only_own_layer (w : World) (o : Opts) (cb : Nat → Bool) (l n : Nat)
    (hr : o.resume = some (l, n)) :
    ∀ p ∈ (finalState w o cb).glog, ∀ r, p.1 = Ev.test r → p.2.layer = some l := by
  obtain ⟨pre, e, h⟩ := tests_in_consumed w o cb
  intro p hp r hr'
  obtain ⟨x, hx, hl⟩ := h p hp r hr'
  obtain ⟨g, hg, rfl⟩ := List.mem_map.1 hx
  rwa [(C03_child_one_layer w o l n hr g (e ▸ List.mem_append_left _ hg)).1] at hl

end Ztr.Runner
