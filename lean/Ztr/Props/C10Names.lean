import Ztr.Model.Ordered
import Ztr.Props.C10
/-
C10 / C03 for `Runner.ordered_layers` over layer names (Model/Ordered), several of which may resolve to one
layer object.
-/
namespace Ztr.Ordered
open Ztr.Layers

theorem mem_keys (f : Name → Nat) (names : List Name) (l : Nat) : l ∈ keys f names ↔ ∃ n ∈ names, f n = l :=
  mem_dedupFirst.trans List.mem_map

theorem nodup_keys (f : Name → Nat) (names : List Name) : (keys f names).Nodup := dedupAux_loop.nodup _ _

theorem mem_block (f : Name → Nat) (names : List Name) (l : Nat) (e : Name × Nat) :
    e ∈ block f names l ↔ e.1 ∈ names ∧ f e.1 = l ∧ e.2 = l := by
  unfold block namesOf
  simp only [List.mem_map, PySort.mem_isort, List.mem_filter, beq_iff_eq]
  constructor
  · rintro ⟨n, ⟨hn, hf⟩, rfl⟩
    exact ⟨hn, hf, rfl⟩
  · rintro ⟨hn, hf, hl⟩
    exact ⟨e.1, ⟨hn, hf⟩, Prod.ext rfl hl.symm⟩

theorem mem_orderedLayers (G : Graph) (f : Name → Nat) (names : List Name) (e : Name × Nat) :
    e ∈ orderedLayers G f names ↔ e.1 ∈ names ∧ e.2 = f e.1 := by
  unfold orderedLayers
  simp only [List.mem_flatMap, (C10_once G _).2, mem_keys, mem_block]
  constructor
  · rintro ⟨l, _, hn, hf, hl⟩
    exact ⟨hn, by rw [hl, hf]⟩
  · rintro ⟨hn, hl⟩
    exact ⟨f e.1, ⟨e.1, hn, rfl⟩, hn, rfl, hl⟩

/-- **C10N_layer_of_name** - a name is yielded with the layer it resolves to. -/
theorem C10N_layer_of_name (G : Graph) (f : Name → Nat) (names : List Name) (n : Name) (l : Nat)
    (h : (n, l) ∈ orderedLayers G f names) : l = f n :=
  ((mem_orderedLayers G f names (n, l)).1 h).2

/-- **C10N_names_once** - every registered name is yielded exactly once and nothing else is: the names
yielded are the registered names without repetition (the keys of `tests_by_layer_name` are distinct). -/
theorem C10N_names_once (G : Graph) (f : Name → Nat) (names : List Name) (hn : names.Nodup) :
    ((orderedLayers G f names).map Prod.fst).Nodup ∧
      ∀ n, n ∈ (orderedLayers G f names).map Prod.fst ↔ n ∈ names := by
  constructor
  · -- no pair twice: no name twice inside a block, and the blocks of different layers carry different layers
    have hpairs : (orderedLayers G f names).Nodup := by
      refine List.pairwise_flatMap.2 ⟨fun l _ => ?_, (C10_once G _).1.imp ?_⟩
      · exact List.pairwise_map.2 (((PySort.isort_perm _ _).nodup_iff.2 (hn.sublist List.filter_sublist)).imp
          fun h e => h (congrArg Prod.fst e))
      · intro a b hab x hx y hy e
        exact hab (((mem_block f names a x).1 hx).2.2.symm.trans (e ▸ ((mem_block f names b y).1 hy).2.2))
    -- and the name determines the pair
    refine List.pairwise_map.2 (hpairs.imp_of_mem fun h1 h2 hne he => hne (Prod.ext he ?_))
    rw [((mem_orderedLayers G f names _).1 h1).2, ((mem_orderedLayers G f names _).1 h2).2, he]
  · intro n
    simp only [List.mem_map]
    constructor
    · rintro ⟨e, he, rfl⟩
      exact ((mem_orderedLayers G f names e).1 he).1
    · intro h
      exact ⟨(n, f n), (mem_orderedLayers G f names (n, f n)).2 ⟨h, rfl⟩, rfl⟩

/-- **C10N_blocks** - the names of one layer form one contiguous run and the runs follow `order_by_bases`
over the layers that own a name: this is the shape of the definition, stated with the facts that make it
meaningful (the layer list has no repetition, every run is non-empty and carries its own layer only). -/
theorem C10N_blocks (G : Graph) (f : Name → Nat) (names : List Name) :
    orderedLayers G f names = (orderByBases G (keys f names)).flatMap (block f names) ∧
    (orderByBases G (keys f names)).Nodup ∧
    (∀ l ∈ orderByBases G (keys f names), block f names l ≠ [] ∧ ∀ e ∈ block f names l, e.2 = l) := by
  refine ⟨rfl, (C10_once G _).1, fun l hl => ?_⟩
  obtain ⟨n, hn, hf⟩ := (mem_keys f names l).1 (((C10_once G _).2 l).1 hl)
  exact ⟨List.ne_nil_of_mem ((mem_block f names l (n, l)).2 ⟨hn, hf, rfl⟩),
    fun e he => ((mem_block f names l e).1 he).2.2⟩

theorem sublist_flatMap {α β : Type} (g : α → List β) {l1 l2 : List α} (h : l1.Sublist l2) :
    (l1.flatMap g).Sublist (l2.flatMap g) := by
  induction h with
  | slnil => simp
  | cons a _ ih => exact ih.trans (List.sublist_append_right _ _)
  | cons_cons a _ ih => exact List.Sublist.append (List.Sublist.refl _) ih

/-- **C10N_bases_first** - tests registered under a name of a base layer come before tests registered under a
name of a layer derived from it. -/
theorem C10N_bases_first {G : Graph} (hwf : WF G) (f : Name → Nat) (names : List Name) {n1 n2 : Name}
    (h1 : n1 ∈ names) (h2 : n2 ∈ names) (hb : f n1 ∈ closure G (f n2)) (hne : f n1 ≠ f n2) :
    [(n1, f n1), (n2, f n2)].Sublist (orderedLayers G f names) := by
  have hs := C10_bases_first hwf (keys f names) hb hne
    ((mem_keys f names _).2 ⟨n1, h1, rfl⟩) ((mem_keys f names _).2 ⟨n2, h2, rfl⟩)
  refine List.Sublist.trans ?_ (sublist_flatMap (block f names) hs)
  rw [List.flatMap_cons, List.flatMap_singleton]
  exact (List.singleton_sublist.2 ((mem_block f names _ _).2 ⟨h1, rfl, rfl⟩)).append
    (List.singleton_sublist.2 ((mem_block f names _ _).2 ⟨h2, rfl, rfl⟩))

/-- **C10N_perm_invariant** - the sequence is a function of the *set* of registered names: any order of
discovery (any permutation of the keys of `tests_by_layer_name`) gives the same sequence. -/
theorem C10N_perm_invariant {G : Graph} (hg : Good G) (f : Name → Nat) {names names' : List Name}
    (h : names.Perm names') : orderedLayers G f names = orderedLayers G f names' := by
  unfold orderedLayers
  have hk : (keys f names).Perm (keys f names') :=
    (List.perm_ext_iff_of_nodup (nodup_keys _ _) (nodup_keys _ _)).2 fun l => by
      simp only [mem_keys, h.mem_iff]
  rw [C10_perm_invariant hg hk]
  congr 1
  funext l
  unfold block namesOf
  rw [PySort.isort_perm_eq (le := nameLe) (.asc id) (h.filter _) fun _ _ _ _ => id]

/-- **C10N_D36_witness** - the code before f7718a1 on two names of one layer: one of them is never yielded
(its tests were neither listed nor run); the repaired function yields both. -/
theorem C10N_D36_witness :
    let G : Graph := { bases := fun _ => [], name := fun l => [l], unit := 0 }
    let f : Name → Nat := fun _ => 1
    (orderedLayersOld G f [[97], [98]]).map Prod.fst = [[98]] ∧
      (orderedLayers G f [[97], [98]]).map Prod.fst = [[97], [98]] := by
  decide

end Ztr.Ordered
