import Ztr.Model.Handover
/-
C11 / C03 / C06 — the command line survives the trip to a layer subprocess (Model/Handover).
-/
namespace Ztr.Handover

variable {S : Type} [DecidableEq S]

theorem takeDefaults_of_head_ne (t : Toks S) : ∀ (tail : List S), tail.head? ≠ some t.dflt →
    takeDefaults t tail = some ([], tail)
  | [], _ => rfl
  | [_], h => if_neg fun e => h (congrArg some e)
  | _ :: _ :: _, h => if_neg fun e => h (congrArg some e)

theorem takeDefaults_pairs (t : Toks S) (defaults tail : List S) :
    takeDefaults t (defaults.flatMap (fun d => [t.dflt, d]) ++ tail)
      = (takeDefaults t tail).map fun p => (defaults ++ p.1, p.2) := by
  induction defaults with
  | nil => exact Option.map_id'.symm
  | cons d ds ih =>
    rw [List.flatMap_cons, List.append_assoc, List.cons_append, List.cons_append, takeDefaults, if_pos rfl, List.nil_append, ih]
    cases takeDefaults t tail <;> rfl

/-- The round trip without a guard: layer name, resume number and the defaults always come back; the words behind
them come back as they are unless they begin with `--default`, which the child reads on as further defaults. -/
theorem configure_childTail (t : Toks S) (ht : t.Good) (given : List S) (name : S) (num : Nat) (defaults : List S)
    (seedOpt : Option S) (user : List S) :
    configure t given (childTail t name num defaults seedOpt user)
      = (takeDefaults t (seedOpt.toList ++ user)).map fun p =>
          { resume := some (name, num), defaults := defaults ++ p.1, args := p.2 } := by
  rw [childTail, configure, if_pos rfl]
  simp only [ht num, takeDefaults_pairs]
  cases takeDefaults t (seedOpt.toList ++ user) <;> rfl

/-- **H_roundtrip** — whatever the layer's name, the defaults and the user's words are (any words, also ones
that look like `--default` or `--resume-layer`), the child recovers exactly the layer name, the resume
number, the defaults and — behind the seed option, if one was added — the user's words, in order.  The one
guard is that the first word behind the defaults is not `--default` itself (`H_default_first_witness` shows
what happens otherwise; the parent's own option parser rejects such a command line, so a parent that got as
far as spawning never composes it). -/
theorem H_roundtrip (t : Toks S) (ht : t.Good) (given : List S) (name : S) (num : Nat) (defaults : List S)
    (seedOpt : Option S) (user : List S) (h : (seedOpt.toList ++ user).head? ≠ some t.dflt) :
    configure t given (childTail t name num defaults seedOpt user)
      = some { resume := some (name, num), defaults := defaults, args := seedOpt.toList ++ user } := by
  rw [configure_childTail t ht, takeDefaults_of_head_ne t _ h, Option.map_some, List.append_nil]

/-- **H_roundtrip_seed** — with the seed option in front nothing is asked of the user's words: the reason the
repair of D32 put the option in front. -/
theorem H_roundtrip_seed (t : Toks S) (ht : t.Good) (given : List S) (name : S) (num : Nat) (defaults : List S)
    (seed : S) (hs : seed ≠ t.dflt) (user : List S) :
    configure t given (childTail t name num defaults (some seed) user)
      = some { resume := some (name, num), defaults := defaults, args := seed :: user } := by
  have := H_roundtrip t ht given name num defaults (some seed) user (by simp [hs])
  simpa using this

/-- **H_seed_in_front** — what `get_options` sees in the child is the parent's user words with at most the one
seed option in front of them: nothing the user wrote — a `--`, positional filters — can change what the seed
option means, and a later `--shuffle-seed` of the user still follows it. -/
theorem H_seed_in_front (t : Toks S) (ht : t.Good) (given : List S) (name : S) (num : Nat) (defaults : List S)
    (seedOpt : Option S) (user : List S) (h : (seedOpt.toList ++ user).head? ≠ some t.dflt) :
    ∃ c, configure t given (childTail t name num defaults seedOpt user) = some c ∧
      c.args = seedOpt.toList ++ user ∧ c.args.drop seedOpt.toList.length = user ∧ c.defaults = defaults := by
  refine ⟨_, H_roundtrip t ht given name num defaults seedOpt user h, rfl, ?_, rfl⟩
  simp

/-- **H_parent** — not a child's command line: the words and the given defaults go to `get_options` as they are. -/
theorem H_parent (t : Toks S) (given user : List S) (h : user.head? ≠ some t.resume) :
    configure t given user = some { resume := none, defaults := given, args := user } :=
  match user, h with
  | [], _ => rfl
  | _ :: _, h => if_neg fun e => h (congrArg some e)

/-- **H_cut_short** — a child's command line cut inside its fixed part never configures a run. -/
theorem H_cut_short (t : Toks S) (given : List S) (name : S) :
    configure t given [t.resume] = none ∧ configure t given [t.resume, name] = none := by
  simp [configure]

/-- the guard of `H_roundtrip` is needed: a first user word `--default` (no seed option) is eaten, with the
word behind it, as one more default -/
theorem H_default_first_witness :
    let t : Toks Nat := { resume := 0, dflt := 1, showNum := fun n => n + 10, parseNum := fun s => some (s - 10) }
    t.Good ∧ configure t [] (childTail t 5 2 [7] none [1, 8, 9])
      = some { resume := some (5, 2), defaults := [7, 8], args := [9] } := by
  refine ⟨fun n => by simp, by decide⟩

/-- non-vacuity: a layer *named* `--default`, a default that is `--resume-layer`, a seed option, user words -/
example :
    let t : Toks Nat := { resume := 0, dflt := 1, showNum := fun n => n + 10, parseNum := fun s => some (s - 10) }
    configure t [] (childTail t 1 3 [0, 1] (some 4) [1, 1, 0])
      = some { resume := some (1, 3), defaults := [0, 1], args := [4, 1, 1, 0] } := by decide

end Ztr.Handover
