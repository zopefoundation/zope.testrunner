import Ztr.Model.Xml
import Ztr.Lemmas.Channel
/-! # C17 — XML reports are well-formed and agree with the run -/
namespace Ztr.Xml

theorem sanitize_xmlChar (s : Str) : ∀ c ∈ sanitize s, xmlChar c = true := by
  intro c hc
  obtain ⟨x, _, rfl⟩ := List.mem_map.1 hc
  split
  · assumption
  · decide

/-! The grammar subset the serializer emits (XML 1.0 productions, declaratively). -/

def isNameStart (c : Nat) : Bool := (97 ≤ c && c ≤ 122) || (65 ≤ c && c ≤ 90) || c == 95
def isNameChar (c : Nat) : Bool := isNameStart c || c == 45 || (48 ≤ c && c ≤ 57)

/-- `Name` -/
def NameOk (n : String) : Prop := (match lit n with | [] => false | c :: r => isNameStart c && r.all isNameChar) = true

instance (n : String) : Decidable (NameOk n) := by unfold NameOk; infer_instance

/-- `Reference`: the predefined entities and character references that denote a `Char` -/
inductive Ref : Str → Prop
  | amp : Ref (lit "&amp;")
  | lt : Ref (lit "&lt;")
  | gt : Ref (lit "&gt;")
  | quot : Ref (lit "&quot;")
  | tab : Ref (lit "&#09;")
  | char (c : Nat) : xmlChar c = true → Ref (charRef c)

/-- `AttValue` between double quotes: `([^<&"] | Reference)*` -/
inductive AttVal : Str → Prop
  | nil : AttVal []
  | chr (c : Nat) (rest : Str) : xmlChar c = true → c ≠ 60 → c ≠ 38 → c ≠ 34 → AttVal rest → AttVal (c :: rest)
  | ref (r rest : Str) : Ref r → AttVal rest → AttVal (r ++ rest)

/-- `(S Attribute)*` with the attribute names collected (they must be distinct in a tag) -/
inductive Attrs : List String → Str → Prop
  | nil : Attrs [] []
  | cons (name : String) (names : List String) (v rest : Str) : NameOk name → AttVal v → Attrs names rest →
      Attrs (name :: names) ([32] ++ lit name ++ [61, 34] ++ v ++ [34] ++ rest)

mutual
/-- `element ::= EmptyElemTag | STag content ETag` -/
inductive Elem : Str → Prop
  | empty (tag : String) (names : List String) (as : Str) : NameOk tag → names.Nodup → Attrs names as →
      Elem ([60] ++ lit tag ++ as ++ lit " />")
  | full (tag : String) (names : List String) (as body : Str) : NameOk tag → names.Nodup → Attrs names as →
      Body body → Elem ([60] ++ lit tag ++ as ++ [62] ++ body ++ [60, 47] ++ lit tag ++ [62])
/-- `content ::= (CharData | Reference | element)*`; `CharData` here excludes `>` altogether, hence `]]>` -/
inductive Body : Str → Prop
  | nil : Body []
  | chr (c : Nat) (rest : Str) : xmlChar c = true → c ≠ 60 → c ≠ 38 → c ≠ 62 → Body rest → Body (c :: rest)
  | ref (r rest : Str) : Ref r → Body rest → Body (r ++ rest)
  | elem (e rest : Str) : Elem e → Body rest → Body (e ++ rest)
end

theorem xmlChar_of_lt128_ge32 {c : Nat} (h : xmlChar c = true) : xmlChar c = true := h

/-- one link of an escaping chain: what is written for `k` is accepted, and so is what the rest of the
chain writes for a `c` other than `k` -/
theorem ite_beq_ok {P : Str → Prop} {c k : Nat} {a b rest : Str} (ha : P (a ++ rest)) (hb : c ≠ k → P (b ++ rest)) :
    P ((if c == k then a else b) ++ rest) := by
  by_cases h : c = k
  · rwa [if_pos (beq_iff_eq.2 h)]
  · rw [if_neg (mt beq_iff_eq.1 h)]
    exact hb h

theorem escAttrChar_ok {c : Nat} {rest : Str} (hc : xmlChar c = true) (hr : AttVal rest) :
    AttVal (escAttrChar c ++ rest) :=
  ite_beq_ok (AttVal.ref _ _ Ref.amp hr) fun h38 =>
  ite_beq_ok (AttVal.ref _ _ Ref.lt hr) fun h60 =>
  ite_beq_ok (AttVal.ref _ _ Ref.gt hr) fun _ =>
  ite_beq_ok (AttVal.ref _ _ Ref.quot hr) fun h34 =>
  ite_beq_ok (AttVal.ref _ _ ((by decide +kernel : charRef 13 = lit "&#13;") ▸ Ref.char 13 (by decide)) hr) fun _ =>
  ite_beq_ok (AttVal.ref _ _ ((by decide +kernel : charRef 10 = lit "&#10;") ▸ Ref.char 10 (by decide)) hr) fun _ =>
  ite_beq_ok (AttVal.ref _ _ Ref.tab hr) fun _ => by
    by_cases h : c < 128
    · rw [if_pos h]
      exact AttVal.chr c rest hc h60 h38 h34 hr
    · rw [if_neg h]
      exact AttVal.ref _ _ (Ref.char c hc) hr

theorem escTextChar_ok {c : Nat} {rest : Str} (hc : xmlChar c = true) (hr : Body rest) :
    Body (escTextChar c ++ rest) :=
  ite_beq_ok (Body.ref _ _ Ref.amp hr) fun h38 =>
  ite_beq_ok (Body.ref _ _ Ref.lt hr) fun h60 =>
  ite_beq_ok (Body.ref _ _ Ref.gt hr) fun h62 => by
    by_cases h : c < 128
    · rw [if_pos h]
      exact Body.chr c rest hc h60 h38 h62 hr
    · rw [if_neg h]
      exact Body.ref _ _ (Ref.char c hc) hr

theorem flatMap_ok {α : Type} {P : Str → Prop} {Q : α → Prop} {f : α → Str}
    (hf : ∀ a rest, Q a → P rest → P (f a ++ rest)) :
    ∀ (l : List α) (rest : Str), (∀ a ∈ l, Q a) → P rest → P (l.flatMap f ++ rest)
  | [], _, _, hr => hr
  | a :: l, rest, h, hr => by
    rw [List.flatMap_cons, List.append_assoc]
    exact hf a _ (h a List.mem_cons_self) (flatMap_ok hf l rest (fun x hx => h x (List.mem_cons_of_mem a hx)) hr)

theorem escAttr_ok : ∀ (v : Str), (∀ c ∈ v, xmlChar c = true) → AttVal (escAttr v) := fun v h =>
  List.append_nil (escAttr v) ▸ flatMap_ok (f := escAttrChar) (fun _ _ => escAttrChar_ok) v [] h AttVal.nil

theorem escText_ok : ∀ (v rest : Str), (∀ c ∈ v, xmlChar c = true) → Body rest → Body (escText v ++ rest) :=
  flatMap_ok (f := escTextChar) (fun _ _ => escTextChar_ok)

theorem nl_body (k : Nat) {rest : Str} (hr : Body rest) : Body (nl k ++ rest) := by
  unfold nl
  refine Body.chr 10 _ (by decide) (by decide) (by decide) (by decide) ?_
  induction 2 * k with
  | zero => exact hr
  | succ n ih => exact Body.chr 32 _ (by decide) (by decide) (by decide) (by decide) ih

theorem renderNat_xmlChar (n : Nat) : ∀ c ∈ Channel.renderNat n, xmlChar c = true := by
  intro c hc
  have := Channel.renderNat_digits n c hc
  simp only [Channel.isDigit, Bool.and_eq_true, decide_eq_true_eq] at this
  simp only [xmlChar, Bool.or_eq_true, Bool.and_eq_true, decide_eq_true_eq]
  omega

theorem lit_append (a b : String) : lit (a ++ b) = lit a ++ lit b := by
  simp only [lit, String.toList_append, List.map_append]

theorem Attrs.append {ns ms : List String} {as bs : Str} (ha : Attrs ns as) (hb : Attrs ms bs) :
    Attrs (ns ++ ms) (as ++ bs) := by
  induction ha with
  | nil => exact hb
  | cons name names v rest hn hv _ ih =>
    rw [List.append_assoc _ rest bs]
    exact Attrs.cons name _ v _ hn hv ih

/-! The serializer writes from left to right, and the model's texts are nested to the left accordingly.
`STag` and `Content` say what has been written of an element so far, so that every piece written is one
step and no text is re-associated. -/

/-- `p` is `<tag` followed by the attributes `names` -/
def STag (tag : String) (names : List String) (p : Str) : Prop :=
  NameOk tag ∧ ∃ as, Attrs names as ∧ p = [60] ++ lit tag ++ as

/-- `p` is a start tag `<tag …>` followed by content: whatever content follows, the end tag completes an element -/
def Content (tag : String) (p : Str) : Prop := ∀ b, Body b → Elem (p ++ b ++ [60, 47] ++ lit tag ++ [62])

section
variable {tag : String} {names : List String} {p : Str}

theorem STag.start (tag : String) (ht : NameOk tag := by decide +kernel) : STag tag [] ([60] ++ lit tag) :=
  ⟨ht, [], Attrs.nil, (List.append_nil _).symm⟩

theorem STag.attr {v : Str} (h : STag tag names p) (name : String) (hv : ∀ c ∈ v, xmlChar c = true)
    (hn : NameOk name := by decide +kernel) : STag tag (names ++ [name]) (p ++ Xml.attr name v) := by
  obtain ⟨ht, as, ha, rfl⟩ := h
  exact ⟨ht, _, ha.append (Attrs.cons name [] _ [] hn (escAttr_ok v hv) Attrs.nil), by
    rw [List.append_nil, List.append_assoc]; rfl⟩

theorem STag.empty (h : STag tag names p) (hn : names.Nodup := by decide +kernel) : Elem (p ++ lit " />") := by
  obtain ⟨ht, as, ha, rfl⟩ := h
  exact Elem.empty tag names as ht hn ha

theorem STag.close (h : STag tag names p) (hn : names.Nodup := by decide +kernel) : Content tag (p ++ [62]) := by
  obtain ⟨ht, as, ha, rfl⟩ := h
  exact fun b hb => Elem.full tag names as b ht hn ha hb

theorem Content.app {c : Str} (h : Content tag p) (hc : ∀ {b}, Body b → Body (c ++ b)) : Content tag (p ++ c) :=
  fun b hb => List.append_assoc p c b ▸ h (c ++ b) (hc hb)

theorem Content.close (h : Content tag p) : Elem (p ++ [60, 47] ++ lit tag ++ [62]) :=
  List.append_nil p ▸ h [] Body.nil

/-- the end tag written as one literal -/
theorem Content.closeLit {s : String} (h : Content tag p) (hs : s = "</" ++ tag ++ ">" := by decide +kernel) :
    Elem (p ++ lit s) := by
  rw [hs, lit_append, lit_append, ← List.append_assoc, ← List.append_assoc]
  exact h.close

/-- an empty element written as a literal -/
theorem emptyLit_ok (tag : String) {s : String} {rest : Str} (hr : Body rest) (ht : NameOk tag := by decide +kernel)
    (hs : s = "<" ++ tag ++ " />" := by decide +kernel) : Body (lit s ++ rest) := by
  rw [hs, lit_append, lit_append]
  exact Body.elem _ rest ((STag.start tag ht).empty List.nodup_nil) hr

end

theorem problemElem_ok (tag : String) (c : Case) (ht : NameOk tag) : Elem (problemElem tag c) :=
  STag.start tag ht |>.attr "message" (sanitize_xmlChar c.message) |>.attr "type" (sanitize_xmlChar c.etype) |>.close
    |>.app (escText_ok _ _ (sanitize_xmlChar c.text)) |>.close

theorem caseElem_ok (c : Case) (htime : ∀ x ∈ c.time, xmlChar x = true) : Elem (caseElem c) := by
  have ho := STag.start "testcase" |>.attr "classname" (sanitize_xmlChar c.className)
    |>.attr "name" (sanitize_xmlChar c.name) |>.attr "time" htime
  have hn : ["classname", "name", "time"].Nodup := by decide +kernel
  -- an `error` and a `failure` differ in the tag of the child only
  have hfull (tag : String) (htag : NameOk tag) :=
    (ho.close hn).app (nl_body 2) |>.app (Body.elem _ _ (problemElem_ok tag c htag)) |>.app (nl_body 1)
      |>.closeLit (s := "</testcase>")
  unfold caseElem
  cases c.kind with
  | success => exact ho.empty hn
  | error => exact hfull "error" (by decide +kernel)
  | failure => exact hfull "failure" (by decide +kernel)

/-- **C17_wellformed** — for every recorded history and every string in test names, exception
messages and tracebacks (the whole code-point range, incl. NUL, control characters, lone surrogates,
`<&>"'`, `]]>`), every report file is a well-formed element of the XML grammar, all its characters
and character references denoting XML `Char`s.  (`host`, the times and the time stamp come from the
platform; they are assumed to consist of XML characters.) -/
theorem C17_wellformed (s : Suite) (host time stamp : Str)
    (hh : ∀ c ∈ host, xmlChar c = true) (ht : ∀ c ∈ time, xmlChar c = true) (hs : ∀ c ∈ stamp, xmlChar c = true)
    (hct : ∀ c ∈ s.cases, ∀ x ∈ c.time, xmlChar x = true) :
    Elem (renderSuite s host time stamp) :=
  STag.start "testsuite" |>.attr "tests" (renderNat_xmlChar s.cases.length)
    |>.attr "errors" (renderNat_xmlChar (nErrors s)) |>.attr "failures" (renderNat_xmlChar (nFailures s))
    |>.attr "hostname" hh |>.attr "name" (sanitize_xmlChar s.name) |>.attr "time" ht |>.attr "timestamp" hs |>.close
    |>.app (nl_body 1) |>.app (emptyLit_ok "properties")
    |>.app (flatMap_ok (f := fun c => nl 1 ++ caseElem c)
      (fun c _ hc hr => List.append_assoc .. ▸ nl_body 1 (Body.elem _ _ (caseElem_ok c hc) hr)) s.cases _ hct)
    |>.app (nl_body 1) |>.app (emptyLit_ok "system-out") |>.app (nl_body 1) |>.app (emptyLit_ok "system-err")
    |>.app (nl_body 0) |>.closeLit

def casesOf (ss : List Suite) (n : Str) : List Case :=
  match ss with
  | [] => []
  | s :: rest => if s.name = n then s.cases else casesOf rest n

theorem casesOf_record (ss : List Suite) (n m : Str) (c : Case) :
    casesOf (record ss n c) m = if n = m then casesOf ss m ++ [c] else casesOf ss m := by
  induction ss with
  | nil => simp only [record, casesOf, List.nil_append]
  | cons s rest ih =>
    simp only [record]
    by_cases hs : s.name = n
    · subst hs
      by_cases h : s.name = m <;> simp [casesOf, h]
    · by_cases hsm : s.name = m
      · subst hsm
        simp [casesOf, hs, Ne.symm hs]
      · simp [casesOf, hs, hsm, ih]

theorem casesOf_foldl_record {α : Type} (key : α → Str) (val : α → Case) (n : Str) :
    ∀ (evs : List α) (ss : List Suite), casesOf (evs.foldl (fun ss p => record ss (key p) (val p)) ss) n =
      casesOf ss n ++ (evs.filter (fun p => key p = n)).map val
  | [], ss => by simp
  | p :: ps, ss => by
    rw [List.foldl_cons, casesOf_foldl_record key val n ps, casesOf_record]
    by_cases h : key p = n <;> simp [h]

/-- **C17_each_once / C17_own_name** — after any history of result events, the cases filed under a
suite are exactly the events whose test belongs to that suite, once each, in order, each carrying the
class name and test name of its own test (for a failing subtest: the class and method of the test it
belongs to, followed by the subtest's description). -/
theorem C17_each_once (evs : List (TestObj × Case)) (n : Str) :
    casesOf (evs.foldl (fun ss p => record ss (parseNames p.1).1
        { p.2 with className := (parseNames p.1).2.2, name := (parseNames p.1).2.1 }) []) n
      = (evs.filter (fun p => (parseNames p.1).1 = n)).map
          (fun p => { p.2 with className := (parseNames p.1).2.2, name := (parseNames p.1).2.1 }) :=
  casesOf_foldl_record _ _ n evs []

def caseChildTag (c : Case) : Option String :=
  match c.kind with | .success => none | .error => some "error" | .failure => some "failure"
def caseChildren (c : Case) : Nat := match c.kind with | .success => 0 | _ => 1

/-- **C17_counts** — the suite attributes are the numbers of the elements written: `tests` = number of
`testcase` elements, `errors` / `failures` = number of cases rendered with an `error` / `failure`
child (each such case has exactly one). -/
theorem C17_counts (s : Suite) :
    (s.cases.map caseChildren).sum = nErrors s + nFailures s ∧
    nErrors s = (s.cases.filter (fun c => caseChildTag c = some "error")).length ∧
    nFailures s = (s.cases.filter (fun c => caseChildTag c = some "failure")).length := by
  have tag : ∀ c : Case, decide (c.kind = .error) = decide (caseChildTag c = some "error") ∧
      decide (c.kind = .failure) = decide (caseChildTag c = some "failure") := by
    intro c
    cases h : c.kind <;> simp [caseChildTag, h]
  refine ⟨?_, congrArg List.length (List.filter_congr fun c _ => (tag c).1),
    congrArg List.length (List.filter_congr fun c _ => (tag c).2)⟩
  unfold nErrors nFailures
  induction s.cases with
  | nil => rfl
  | cons c cs ih =>
    simp only [List.map_cons, List.sum_cons, List.filter_cons, ih]
    cases h : c.kind <;> simp [caseChildren, h] <;> omega

/-- the own-name clause, spelled out for a failing subtest -/
theorem C17_subtest_name (m c meth desc : Str) :
    parseNames (.sub m c meth desc) = (m ++ [46] ++ c, meth ++ [32] ++ desc, m ++ [46] ++ c) ∧
    (parseNames (.sub m c meth desc)).2.2 = (parseNames (.unit m c meth)).2.2 := ⟨rfl, rfl⟩

-- non-vacuity: a message with NUL, a lone surrogate, '<', ']]>' and an astral character
example : escText (sanitize [0, 55296, 60, 93, 93, 62, 128512]) =
    lit "&#65533;&#65533;&lt;]]&gt;&#128512;" := by decide +kernel

end Ztr.Xml
