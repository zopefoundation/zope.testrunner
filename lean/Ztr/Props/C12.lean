import Ztr.Props.C05
import Ztr.Lemmas.Runner
/-! # C12 — reported counts equal what actually happened (TestResult level + summary) -/
namespace Ztr.Result
open Ztr.Proto

/-- what one unittest call contributes to (failures, errors, skipped) -/
def tallyOp : Op → Nat × Nat × Nat
  | .addFailure | .addUnexpectedSuccess | .addSubTest (some .fail) => (1, 0, 0)
  | .addError | .addSubTest (some _) => (0, 1, 0)
  | .addSkip | .addSubSkip => (0, 0, 1)
  | _ => (0, 0, 0)

/-- the counters the runner prints: failures incl. unexpected successes, errors, skipped -/
def tallyState (s : RS) : Nat × Nat × Nat :=
  (s.failures.length + s.unexpected.length, s.errors.length, s.skipped.length)

/-- what the observable events say -/
def tallyEvs : List REv → Nat × Nat × Nat
  | [] => (0, 0, 0)
  | .report _ b _ :: r =>
    let x := tallyEvs r
    (match b with
     | .failure | .subFailure | .unexpectedSuccess => (x.1 + 1, x.2.1, x.2.2)
     | .error | .subError => (x.1, x.2.1 + 1, x.2.2))
  | .skipped _ :: r => let x := tallyEvs r; (x.1, x.2.1, x.2.2 + 1)
  | _ :: r => tallyEvs r

def add3 (a b : Nat × Nat × Nat) : Nat × Nat × Nat := (a.1 + b.1, a.2.1 + b.2.1, a.2.2 + b.2.2)

theorem add3_assoc (a b c : Nat × Nat × Nat) : add3 (add3 a b) c = add3 a (add3 b c) := by
  simp only [add3, Nat.add_assoc]

theorem tallyEvs_cons (e : REv) (r : List REv) : tallyEvs (e :: r) = add3 (tallyEvs [e]) (tallyEvs r) := by
  cases e with
  | report t k toks => cases k <;> simp [tallyEvs, add3, Nat.add_comm]
  | skipped t => simp [tallyEvs, add3, Nat.add_comm]
  | _ => simp [tallyEvs, add3]

theorem tallyEvs_append (a b : List REv) : tallyEvs (a ++ b) = add3 (tallyEvs a) (tallyEvs b) := by
  induction a with
  | nil => simp [tallyEvs, add3]
  | cons e r ih => rw [List.cons_append, tallyEvs_cons, ih, ← add3_assoc, ← tallyEvs_cons]

theorem tallyEvs_map {α : Type} (g : α → REv) (h : ∀ x, tallyEvs [g x] = (0, 0, 0)) (l : List α) :
    tallyEvs (l.map g) = (0, 0, 0) := by
  induction l with
  | nil => rfl
  | cons x xs ih => rw [List.map_cons, tallyEvs_cons, h, ih]; rfl

theorem tallyEvs_quiet {new : List REv} (evs : List REv) (h : tallyEvs new = (0, 0, 0)) :
    tallyEvs (evs ++ new) = tallyEvs evs := by
  rw [tallyEvs_append, h]
  rfl

theorem tallyOp_recorded {op : Op} {b : Bad} (h : recorded op = some b) (t : Nat) (toks : List Nat) :
    tallyOp op = tallyEvs [.report t b toks] := by
  cases op with
  | addSubTest e =>
    cases e with
    | none => cases h
    | some e => cases e <;> cases h <;> rfl
  | addFailure | addError | addUnexpectedSuccess => cases h; rfl
  | _ => cases h

theorem tally_bad (c : Cfg) (t : Nat) (b : Bad) (s : RS) :
    tallyState (bad c t b s) = add3 (tallyState s) (tallyEvs [.report t b (restoreStreams c s).2]) := by
  rw [bad_eq]
  cases b <;> simp [record, restoreStreams, tallyState, tallyEvs, add3] <;> omega

theorem tally_noteSkip (t : Nat) (s : RS) : tallyState (noteSkip t s) = add3 (tallyState s) (0, 0, 1) := by
  simp [tallyState, noteSkip, RS.emit, add3]

/-- **C12_step** — inside a test every unittest call advances the runner's counters and the
observable events by exactly the same, call-determined amount: nothing is counted that did not
happen and nothing that happened is dropped. -/
theorem C12_step (c : Cfg) (t : TestDef) (s : RS) (op : Op) (hr : Running s) (hop : Mid op ∨ Final op) :
    tallyState (step c t s op) = add3 (tallyState s) (tallyOp op) ∧
    tallyEvs (step c t s op).evs = add3 (tallyEvs s.evs) (tallyOp op) := by
  refine step_running hr hop (held := ?held) (leaked := ?leaked) (passed := ?passed) (skip := ?skip)
    (subOk := ?subOk) (bad := fun b hb => ?bad)
  case held =>
    rintro ph ws rfl _
    exact ⟨rfl, tallyEvs_append _ _⟩
  case leaked =>
    rintro ph ws rfl _
    exact ⟨rfl, (tallyEvs_quiet _ (tallyEvs_map _ (fun _ => rfl) ws)).trans (tallyEvs_append _ _)⟩
  case passed => rintro (rfl | rfl) <;> exact ⟨rfl, tallyEvs_append _ _⟩
  case skip => rintro (rfl | rfl) <;> exact ⟨tally_noteSkip t.id s, tallyEvs_append _ _⟩
  case subOk =>
    rintro rfl
    exact ⟨rfl, rfl⟩
  case bad =>
    rw [tallyOp_recorded hb t.id (restoreStreams c s).2]
    exact ⟨tally_bad c t.id b s, tallyEvs_append _ _⟩

def Agree (s : RS) : Prop := tallyState s = tallyEvs s.evs

theorem Agree.advance {s s' : RS} {n : Nat × Nat × Nat} (h : Agree s)
    (h' : tallyState s' = add3 (tallyState s) n ∧ tallyEvs s'.evs = add3 (tallyEvs s.evs) n) : Agree s' := by
  unfold Agree at *
  rw [h'.1, h'.2, h]

/-- the hook calls, `tstart` and `tend` do not count, the calls inside the test advance both alike -/
theorem agree_runTest (c : Cfg) (t : TestDef) (s : RS) (hb : Between s) (h : Agree s) : Agree (runTest c s t) := by
  refine runTest_rule (P := Agree) c t s hb ?enter (fun x op _ ho hx _ hx' => hx'.advance (C12_step c t x op hx ho))
    fun i x _ _ hx => ?leave
  case enter =>
    show tallyState s = tallyEvs (s.evs ++ _ ++ _)
    rw [tallyEvs_quiet _ (tallyEvs_map _ (fun _ => rfl) _), tallyEvs_quiet _ rfl]
    exact h
  case leave =>
    show tallyState x = tallyEvs (x.evs ++ _ ++ _)
    rw [tallyEvs_quiet _ rfl, tallyEvs_quiet _ (tallyEvs_map _ (fun _ => rfl) _)]
    exact hx

/-- **C12_counts** — for every sequence of tests with every outcome script (several events from one
test, failing sub-tests, unexpected successes, skips of every kind), with and without `--buffer` and
`-x`: when the test loop of a layer ends, the `TestResult`'s failure, error and skip counters equal
the numbers of failure reports, error reports and skips that actually happened. -/
theorem C12_counts (c : Cfg) (ts : List TestDef) :
    tallyState (runTests c ts {}) = tallyEvs (runTests c ts {}).evs :=
  (runTests_inv (P := Agree) c ts {} (fun t _ x => agree_runTest c t x) between_init rfl).2

/-- the tests the loop actually starts (all of them unless `-x` fired or an interrupt propagates) -/
def startedTests (c : Cfg) : List TestDef → RS → List TestDef
  | [], _ => []
  | t :: ts, s => if s.shouldStop || s.aborted || s.interrupted then [] else t :: startedTests c ts (runTest c s t)

theorem runTest_testsRun (c : Cfg) (t : TestDef) (s : RS) (hb : Between s) :
    (runTest c s t).testsRun = s.testsRun + t.count :=
  runTest_rule (P := fun x => x.testsRun = s.testsRun + t.count) c t s hb rfl
    (fun x op _ ho hx _ h => (step_testsRun_running c t x op hx ho).trans h) fun _ _ _ _ h => h

/-- **C12_tests_run** — `testsRun` is the sum of `countTestCases()` over exactly the tests that
were started (decorator-skipped ones included, as unittest reports them), no more, no less. -/
theorem C12_tests_run (c : Cfg) : ∀ (ts : List TestDef) (s : RS), Between s →
    (runTests c ts s).testsRun = s.testsRun + ((startedTests c ts s).map (·.count)).sum
  | [], s, _ => by simp [runTests, startedTests]
  | t :: ts, s, hb => by
    unfold runTests startedTests
    split
    · simp
    · rw [C12_tests_run c ts _ (runTest_between c t s hb), runTest_testsRun c t s hb]
      simp [Nat.add_assoc]

end Ztr.Result

namespace Ztr.Runner
open Ztr.Result

/-- **C12_summary** — the numbers of a layer's summary event are the `TestResult`'s own counters
(failures incl. unexpected successes; errors plus the import errors, as the code prints it). -/
theorem C12_summary (w : World) (o : Opts) (l : Nat) (tests : List Proto.TestDef) (n : Nat) (s : PS)
    (hok : (runTests (resultCfg w o l) tests {}).aborted = false)
    (hint : (runTests (resultCfg w o l) tests {}).interrupted = false) :
    let r := runTests (resultCfg w o l) tests {}
    Ev.summary r.testsRun (r.failures.length + r.unexpected.length) (r.errors.length + w.importErrors)
      r.skipped.length ∈ (runIterations w o l tests (n + 1) s).trace := by
  intro r
  rw [(runIterations_extends w o l tests (n + 1) s).trace]
  refine List.mem_append_right _ ?_
  unfold layerDelta
  simp only [hok, hint, Bool.false_eq_true, if_false]
  split <;> simp [iterDelta, Delta.append, r]

/-- **C12_summary_truth** — the failure / error / skip numbers printed in a layer's summary equal the
numbers of failure reports, error reports (plus the import errors, as the code prints them) and skips
among the events of that iteration: for every world, outcome assignment and option set. -/
theorem C12_summary_truth (w : World) (o : Opts) (l : Nat) (tests : List Proto.TestDef) (n : Nat) (s : PS)
    (hint : (runTests (resultCfg w o l) tests {}).interrupted = false) :
    let r := runTests (resultCfg w o l) tests {}
    Ev.summary r.testsRun (tallyEvs r.evs).1 ((tallyEvs r.evs).2.1 + w.importErrors) (tallyEvs r.evs).2.2
      ∈ (runIterations w o l tests (n + 1) s).trace ∧
    r.testsRun = ((startedTests (resultCfg w o l) tests {}).map (·.count)).sum := by
  intro r
  refine ⟨?_, by simpa using C12_tests_run (resultCfg w o l) tests {} between_init⟩
  rw [show tallyEvs r.evs = tallyState r from (C12_counts (resultCfg w o l) tests).symm]
  exact C12_summary w o l tests n s (runTests_not_aborted _ _) hint

end Ztr.Runner
