import Ztr.Model.Suites
import Ztr.Props.C08
/-! # C09 — nearest layer/level declaration wins; level and unit switches -/
namespace Ztr.Suites

/-- the declarations met on the way from a leaf outwards (own declaration first) -/
abbrev Chain := List (Option Int × Option Nat)

mutual
def chains (outer : Chain) : Suite → List (Nat × Bool × Chain)
  | .leaf id lvl lyr => [(id, false, (lvl, lyr) :: outer)]
  | .startup id => [(id, true, outer)]
  | .node lvl lyr kids => chainsList ((lvl, lyr) :: outer) kids
def chainsList (outer : Chain) : List Suite → List (Nat × Bool × Chain)
  | [] => []
  | k :: ks => chains outer k ++ chainsList outer ks
end

def nearest {α : Type} (chain : List (Option α)) (d : α) : α := (chain.findSome? id).getD d

theorem nearest_cons {α : Type} (x : Option α) (chain : List (Option α)) (d : α) :
    nearest (x :: chain) d = x.getD (nearest chain d) := by
  cases x <;> simp [nearest, List.findSome?]

def resolve (d0 : Int) (y0 : Nat) (e : Nat × Bool × Chain) : Entry :=
  (e.1, nearest (e.2.2.map (·.1)) d0, if e.2.1 then none else some (nearest (e.2.2.map (·.2)) y0))

mutual
theorem flatten_chains (d0 : Int) (y0 : Nat) (outer : Chain) : ∀ s : Suite,
    flatten (nearest (outer.map (·.1)) d0) (nearest (outer.map (·.2)) y0) s
      = (chains outer s).map (resolve d0 y0)
  | .leaf id lvl lyr => by simp [flatten, chains, resolve, nearest_cons]
  | .startup id => by simp [flatten, chains, resolve]
  | .node lvl lyr kids => by
    have := flattenList_chains d0 y0 ((lvl, lyr) :: outer) kids
    simp only [List.map_cons, nearest_cons] at this
    simp [flatten, chains, this]
theorem flattenList_chains (d0 : Int) (y0 : Nat) (outer : Chain) : ∀ ks : List Suite,
    flattenList (nearest (outer.map (·.1)) d0) (nearest (outer.map (·.2)) y0) ks
      = (chainsList outer ks).map (resolve d0 y0)
  | [] => by simp [flattenList, chainsList]
  | k :: ks => by
    simp [flattenList, chainsList, flatten_chains d0 y0 outer k, flattenList_chains d0 y0 outer ks]
end

/-- **C09_nearest** — every leaf of a suite tree of any depth appears exactly once, in order, with
exactly one level and one layer: the declaration nearest to it (on the test, else the innermost
enclosing suite, outwards), defaulting to level 1 and the unit-test layer. -/
theorem C09_nearest (unit : Nat) (s : Suite) :
    flatten 1 unit s = (chains [] s).map (resolve 1 unit) := by
  have := flatten_chains 1 unit [] s
  simpa [nearest] using this

/-- **C09_eligible** — the level switch. -/
theorem C09_eligible (a l : Int) : eligible a none l = true ↔ a ≤ 0 ∨ l ≤ a := by
  simp [eligible]

theorem C09_only_level (a k l : Int) : eligible a (some k) l = true ↔ l = k := by
  simp [eligible]

/-- **C09_all** — after normalisation `--all` makes every level up to `sys.maxsize` eligible
(the bound is forced by the code: `at_level = sys.maxsize`; D14 is the excluded point). -/
theorem C09_all {P : Type} (unitPat : P) (o : Opts P) (h : o.all = true) (honly : o.onlyLevel = none)
    (l : Int) (hl : l ≤ maxsize) :
    eligible (normalize unitPat o).atLevel (normalize unitPat o).onlyLevel l = true := by
  have h1 : (normalize unitPat o).atLevel = maxsize := by simp [normalize, h]
  have h2 : (normalize unitPat o).onlyLevel = none := by simp [normalize, honly]
  rw [h1, h2, C09_eligible]; exact Or.inr hl

theorem C09_D14_witness : eligible maxsize none (maxsize + 1) = false := by decide

/-- **C09_unit_both** — `-u -f` is the same as neither. -/
theorem C09_unit_both {P : Type} (unitPat : P) (o : Opts P) :
    normalize unitPat { o with unit := true, nonUnit := true }
      = normalize unitPat { o with unit := false, nonUnit := false } := by
  simp [normalize]

section
variable {P N : Type} [DecidableEq N]

/-- **C09_non_unit** — `-f` drops the unit-test layer. -/
theorem C09_non_unit (m : P → N → Bool) (dot : N → Bool) (isUnit : N → Bool) (o : Opts P)
    (resume : Option N) (n : N) (hn : isUnit n = true) (hf : o.nonUnit = true) :
    layerKept m dot isUnit o resume n = false := by
  unfold layerKept
  simp only [hn, hf, if_true, Bool.not_true, Bool.false_eq_true, if_false]
  cases resume <;> simp

/-- **C09_unit** — with `-u` (alone) a layer is kept iff its name is matched by the unit-layer
pattern: exactly the unit-test layer, provided no other layer name matches that regex (D18). -/
theorem C09_unit (m : P → N → Bool) (dot : N → Bool) (isUnit : N → Bool) (unitPat : P) (o : Opts P)
    (hu : o.unit = true) (hf : o.nonUnit = false) (n : N) :
    layerKept m dot isUnit (normalize unitPat o) none n = m unitPat n := by
  have hl : (normalize unitPat o).layer = [(false, unitPat)] := by simp [normalize, hu, hf]
  have hnu : (normalize unitPat o).nonUnit = false := by simp [normalize, hf]
  unfold layerKept
  rw [hl]
  have hacc : Filter.accept m dot [(false, unitPat)] n = m unitPat n := by
    simp [Filter.accept, Filter.split]
  simp only [hnu, List.isEmpty_cons, Bool.false_eq_true, if_false, hacc, Bool.not_false, if_true]
  cases isUnit n <;> simp

/-- **C09_neither** — without `-u`, `-f` and `--layer` every layer is kept. -/
theorem C09_neither (m : P → N → Bool) (dot : N → Bool) (isUnit : N → Bool) (o : Opts P)
    (hf : o.nonUnit = false) (hl : o.layer = []) (n : N) :
    layerKept m dot isUnit o none n = true := by
  unfold layerKept
  simp [hf, hl]

/-- **C09_child** — a child process keeps only its `--resume-layer`. -/
theorem C09_child (m : P → N → Bool) (dot : N → Bool) (isUnit : N → Bool) (o : Opts P) (r n : N)
    (h : layerKept m dot isUnit o (some r) n = true) : n = r := by
  unfold layerKept at h
  simp at h
  exact h.2
end

-- non-vacuity: a three-level tree with declarations at every depth
example : flatten 1 0 (.node (some 2) none [.leaf 10 none none, .node none (some 5) [.leaf 11 (some 3) none,
    .leaf 12 none (some 7)], .startup 13])
    = [(10, 2, some 0), (11, 3, some 5), (12, 2, some 7), (13, 2, none)] := by decide

end Ztr.Suites
