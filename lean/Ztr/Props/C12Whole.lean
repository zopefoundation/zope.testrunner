import Ztr.Props.C03Run
import Ztr.Props.C02
/-! # C12 — the numbers of the "Total:" line against what happened in all processes of the run -/
namespace Ztr.Runner
open Ztr.Layers Ztr.Proto Ztr.Result

def isChildErr : Err → Bool
  | .child _ => true
  | _ => false

/-- number of "subprocess for layer" markers among the errors -/
def markers (es : List Err) : Nat := es.countP isChildErr

theorem markers_append (a b : List Err) : markers (a ++ b) = markers a + markers b := by
  simp [markers]

theorem ownErrors_length (es : List Err) : (ownErrors es).length + markers es = es.length := by
  induction es with
  | nil => rfl
  | cons e r ih =>
    cases e <;> simp [ownErrors, markers, isChildErr, List.countP_cons] at ih ⊢ <;> omega

/-- spawn events of children the parent finds bad -/
def spawnBad (cb : Nat → Bool) (τ : List Ev) : Nat :=
  τ.countP (fun e => match e with | .spawn l _ => cb l | _ => false)

theorem spawnBad_append (cb : Nat → Bool) (a b : List Ev) : spawnBad cb (a ++ b) = spawnBad cb a + spawnBad cb b := by
  simp [spawnBad]

/-- the markers among the errors are exactly the spawn events of bad children -/
def MK (cb : Nat → Bool) (s : PS) : Prop := markers s.errors = spawnBad cb s.trace

theorem markers_errOf (cb : Nat → Bool) : ∀ evs : List Ev, markers (evs.filterMap (errOf cb)) = spawnBad cb evs
  | [] => rfl
  | e :: evs => by
    have ih := markers_errOf cb evs
    unfold markers spawnBad at *
    rw [List.filterMap_cons, List.countP_cons, ← ih]
    cases e with
    | spawn l n => cases hc : cb l <;> simp [errOf, hc, isChildErr, List.countP_cons]
    | tearDown l r => cases r <;> simp [errOf, isChildErr]
    | _ => simp [errOf]

theorem mk_logs {cb : Nat → Bool} {s s' : PS} {new : List (Ev × Snap)} (hl : Logs cb s s' new) (h : MK cb s) :
    MK cb s' := by
  unfold MK at *
  rw [hl.errors, hl.trace, markers_append, spawnBad_append, h, markers_errOf]

theorem mk_layerDelta (cb : Nat → Bool) (w : World) (o : Opts) (l : Nat) (tests : List TestDef) (n : Nat) :
    markers (layerDelta w o l tests n).errors = 0 ∧ spawnBad cb (layerDelta w o l tests n).trace = 0 := by
  constructor
  · have hit : markers (iterDelta w o l tests).errors = 0 :=
      List.countP_eq_zero.2 fun e he => by
        obtain ⟨t, _, rfl⟩ := List.mem_map.1 he
        simp [isChildErr]
    exact layerDelta_induction w o l tests (P := fun d => markers d.errors = 0) rfl (fun _ => rfl) (fun _ => rfl) hit
      (fun d hd => by simp only [Delta.append, markers_append, hit, hd]) n
  · refine List.countP_eq_zero.2 fun e he => ?_
    rcases layerDelta_trace w o l tests n e he with ⟨r, rfl⟩ | ⟨a, b, c, d, rfl⟩ <;> simp

theorem mk_finalState (w : World) (o : Opts) (cb : Nat → Bool) : MK cb (finalState w o cb) := by
  refine finalState_preserves (P := MK cb) rfl (logs := fun hl _ => mk_logs hl) (setup := ?_) (iters := ?_)
    (ran := fun _ _ h => h)
  · intro s s' new l ok hl _ h
    have h1 := mk_logs hl h
    cases ok
    · unfold MK at *
      simpa [markers, isChildErr] using h1
    · exact h1
  · intro g _ n s s' he h
    obtain ⟨d1, d2⟩ := mk_layerDelta cb w o g.1 g.2 n
    unfold MK at *
    rw [he.errors, he.trace, markers_append, spawnBad_append, h, d1, d2]


/-- failures / errors that happened in a process, read off its trace (layer hooks that raised count as errors) -/
def badFail (τ : List Ev) : Nat := τ.countP isFailEv
def badErr (τ : List Ev) : Nat := τ.countP (isErrEv (fun _ => false))

theorem countP_isErrEv_split (cb : Nat → Bool) : ∀ τ : List Ev,
    τ.countP (isErrEv cb) = badErr τ + spawnBad cb τ
  | [] => rfl
  | e :: r => by
    have h1 : [e].countP (isErrEv cb) = badErr [e] + spawnBad cb [e] := by
      cases e with
      | spawn l n => exact (Nat.zero_add _).symm
      | test r => cases r <;> rfl
      | _ => rfl
    have h2 := countP_isErrEv_split cb r
    unfold badErr spawnBad at *
    rw [← List.singleton_append, List.countP_append, List.countP_append, List.countP_append, h1, h2]
    omega

/-- **C12_process_counts** — in every process that is not abandoned by a KeyboardInterrupt, whatever it is
told about its children: the failure list has one entry per failure event of its trace, and its own
errors (without the "subprocess for layer" markers) one entry per error event — erroring tests, layer
`setUp`s and `tearDown`s that raised. -/
theorem C12_process_counts (w : World) (o : Opts) (cb : Nat → Bool)
    (hint : (finalState w o cb).interrupted = false) :
    (finalState w o cb).failures.length = badFail (finalState w o cb).trace ∧
    (ownErrors (finalState w o cb).errors).length = badErr (finalState w o cb).trace := by
  have hc := counted_finalState w o cb hint
  have hm := mk_finalState w o cb
  have ho := ownErrors_length (finalState w o cb).errors
  refine ⟨hc.1, ?_⟩
  have := hc.2
  rw [countP_isErrEv_split] at this
  unfold MK at hm
  omega

/-- **C12_totals_truth** — the failures and errors of the "Total:" line are what happened in the run: one
failure per failure event and one error per error event in the parent and in every subprocess whose
report arrived, one error per subprocess that did not deliver its report, plus the import errors. -/
theorem C12_totals_truth (w : World) (o : Opts) (fate : Nat → Fate)
    (hp : (parentOut w o fate).interrupted = false)
    (hch : ∀ l ∈ spawnedLayers (parentOut w o fate).trace, (childOut w o l).interrupted = false) :
    (wholeTotals w o fate).2.1 = badFail (parentOut w o fate).trace +
      (((spawnedLayers (parentOut w o fate).trace).filter (fun l => fate l == .completes)).map
        (fun l => badFail (childOut w o l).trace)).sum ∧
    (wholeTotals w o fate).2.2.1 = badErr (parentOut w o fate).trace +
      (((spawnedLayers (parentOut w o fate).trace).filter (fun l => fate l == .completes)).map
        (fun l => badErr (childOut w o l).trace)).sum +
      ((spawnedLayers (parentOut w o fate).trace).filter (fun l => fate l == .lost)).length + w.importErrors := by
  obtain ⟨p1, p2⟩ := C12_process_counts w o (cbOf w o fate) hp
  -- a child is told of no bad children, so its error list is counted as it stands
  have hchild : ∀ l ∈ (spawnedLayers (parentOut w o fate).trace).filter (fun l => fate l == .completes),
      (childOut w o l).failures.length = badFail (childOut w o l).trace ∧
      (childOut w o l).errors.length = badErr (childOut w o l).trace := fun l hl =>
    counted_finalState w { o with resume := some (l, numberOf w o l) } (fun _ => false) (hch l (List.mem_filter.1 hl).1)
  unfold wholeTotals
  simp only
  rw [List.map_congr_left fun l hl => (hchild l hl).1, List.map_congr_left fun l hl => (hchild l hl).2]
  exact ⟨congrArg (· + _) p1, congrArg (· + _ + _ + _) p2⟩


/-! ### the two known deviations of the "Total:" line, as witnesses in the model

The model computes the totals the way the code does; where the code's numbers differ from what happened
(D4, D5 in `known_findings.json`) the model shows it too. -/

def c12W : World where
  graph := c1G
  info := fun _ => ⟨true, true, false, false⟩
  setUpRaises := fun _ _ => false
  tearDownResult := fun l _ => if l == 1 then .notImpl else .ok
  groups := [(1, [{ id := 10 }, { id := 11, body := { exc := some .fail } }]), (2, [{ id := 20, decoSkip := true }, { id := 21 }])]
  importErrors := 0

/-- **D5** — with `--repeat 2` every test starts twice, the total counts each once -/
theorem C12_D5_witness :
    (tstartIdsEv (parentOut c12W { repeat_ := 2 } (fun _ => .completes)).trace).length = 4 ∧
    (tstartIdsEv (childOut c12W { repeat_ := 2 } 2).trace).length = 4 ∧
    (wholeTotals c12W { repeat_ := 2 } (fun _ => .completes)).1 = 4 := by decide +kernel

/-- **D4** — a test skipped in a layer subprocess is missing from the total's skipped count -/
theorem C12_D4_witness :
    (childOut c12W {} 2).skipped = 1 ∧ spawnedLayers (parentOut c12W {} (fun _ => .completes)).trace = [2] ∧
    (wholeTotals c12W {} (fun _ => .completes)).2.2.2 = 0 := by decide +kernel

/-- the totals theorem on a concrete run with a failure in the parent, a resumed child and a lost child -/
example : (wholeTotals c12W {} (fun _ => .completes)) = (4, 1, 0, 0) ∧
    (wholeTotals c12W {} (fun _ => .lost)) = (2, 1, 1, 0) ∧
    (parentOut c12W {} (fun _ => .lost)).interrupted = false := by decide +kernel

end Ztr.Runner
