import Ztr.Props.C17
/-! # C17 — doctests are filed under the module/object they document -/
namespace Ztr.Xml

theorem splitDotsAux_append (p rest cur : Str) (h : ∀ c ∈ p, c ≠ 46) :
    splitDotsAux (p ++ rest) cur = splitDotsAux rest (p.reverse ++ cur) := by
  induction p generalizing cur with
  | nil => rfl
  | cons c r ih =>
    rw [List.cons_append, splitDotsAux, if_neg (h c List.mem_cons_self),
      ih (c :: cur) (fun x hx => h x (List.mem_cons_of_mem c hx))]
    simp

theorem splitDots_joinDots : ∀ (ps : List Str), ps ≠ [] → (∀ p ∈ ps, ∀ c ∈ p, c ≠ 46) → splitDots (joinDots ps) = ps
  | [], h, _ => absurd rfl h
  | [p], _, h => by
    have := splitDotsAux_append p [] [] (h p List.mem_cons_self)
    simpa [splitDots, joinDots, splitDotsAux] using this
  | p :: q :: rest, _, h => by
    have ih := splitDots_joinDots (q :: rest) (List.cons_ne_nil q rest) (fun x hx => h x (List.mem_cons_of_mem p hx))
    unfold splitDots at *
    show splitDotsAux (p ++ [46] ++ joinDots (q :: rest)) [] = _
    rw [List.append_assoc, splitDotsAux_append p _ [] (h p List.mem_cons_self), List.singleton_append,
      splitDotsAux, if_pos rfl, ih]
    simp

/-- **C17_doctest_name** — a doctest named `pkg.mod.obj` (dot-free components) is filed in the suite and
class `pkg.mod` under the name `obj`: its own module and object, whatever else is recorded. -/
theorem C17_doctest_name (mods : List Str) (obj : Str) (hm : ∀ p ∈ mods, ∀ c ∈ p, c ≠ 46) (ho : ∀ c ∈ obj, c ≠ 46) :
    parseNames (.doctest (joinDots (mods ++ [obj]))) = (joinDots mods, obj, joinDots mods) := by
  have hs := splitDots_joinDots (mods ++ [obj]) (by simp)
    (List.forall_mem_append.2 ⟨hm, fun p hp => List.mem_singleton.1 hp ▸ ho⟩)
  simp only [parseNames, hs, List.dropLast_concat, List.getLast?_concat, Option.getD_some]

example : parseNames (.doctest (lit "wtests.T7.t7")) = (lit "wtests.T7", lit "t7", lit "wtests.T7") := by decide +kernel

end Ztr.Xml
