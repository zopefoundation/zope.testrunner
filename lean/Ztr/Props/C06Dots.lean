import Ztr.Model.Channel
/-! # C06 / C07 — which lines of a layer subprocess's stdout are dropped as keep-alive lines -/
namespace Ztr.Channel

theorem dots_split (ln : Bytes) : ∃ k t, ln = List.replicate k 46 ++ t ∧ t.head? ≠ some 46 := by
  refine ⟨(ln.takeWhile (· == 46)).length, ln.dropWhile (· == 46), ?_, ?_⟩
  · have : ln.takeWhile (· == 46) = List.replicate _ 46 :=
      List.eq_replicate_iff.2 ⟨rfl, fun b hb => beq_iff_eq.1 (List.all_eq_true.1 List.all_takeWhile b hb)⟩
    rw [← this, List.takeWhile_append_dropWhile]
  · intro e
    have := List.head?_dropWhile_not (· == 46) ln
    rw [e] at this
    exact absurd this (by decide)

theorem isDotsLine_dots (k : Nat) (t : Bytes) (ht : t.head? ≠ some 46) :
    isDotsLine (List.replicate k 46 ++ t) = true ↔ 0 < k ∧ (t = [13, 10] ∨ t = [13] ∨ t = [10]) := by
  unfold isDotsLine
  rw [List.dropWhile_append_of_pos (fun a ha => beq_iff_eq.2 (List.eq_of_mem_replicate ha)),
    List.dropWhile_beq_eq_self_of_head?_ne ht]
  cases k with
  | zero => simp [ht]
  | succ k => simp [List.replicate_succ, or_assoc]

/-- **C06_dots_exact** — a line is taken for a keep-alive line exactly when it consists of one or more dots
followed by `\r\n`, `\r` or `\n` and nothing else; every other line of the layer's output is kept. -/
theorem C06_dots_exact (ln : Bytes) :
    isDotsLine ln = true ↔ ∃ k, 0 < k ∧ (ln = List.replicate k 46 ++ [13, 10] ∨ ln = List.replicate k 46 ++ [13] ∨
      ln = List.replicate k 46 ++ [10]) := by
  constructor
  · intro h
    obtain ⟨k, t, rfl, ht⟩ := dots_split ln
    obtain ⟨hk, h⟩ := (isDotsLine_dots k t ht).1 h
    exact ⟨k, hk, by simpa only [List.append_cancel_left_eq] using h⟩
  · rintro ⟨k, hk, rfl | rfl | rfl⟩ <;>
      exact (isDotsLine_dots k _ (by decide)).2 ⟨hk, by simp⟩

theorem C06_keeps_all_but_dots (bs : Bytes) (l : Bytes) :
    l ∈ keptLines bs ↔ l ∈ stdoutLines bs ∧ isDotsLine l = false := by
  unfold keptLines
  simp [List.mem_filter]

/-- lines that merely start with dots are output of the layer (D31) -/
example : isDotsLine [46, 46, 46, 13, 46, 10] = false ∧ isDotsLine [46, 46, 13, 10] = true ∧
    isDotsLine [46, 10] = true ∧ isDotsLine [10] = false ∧ isDotsLine [32, 46, 10] = false := by decide

end Ztr.Channel
