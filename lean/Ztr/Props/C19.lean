import Ztr.Model.Threads
/-! # C19 — threads left behind by a test are reported precisely -/
namespace Ztr.Threads

/-- invariant of a history without identifier reuse *into the snapshot*:
threads born since the snapshot carry idents outside it, the others are in it -/
structure Inv (s : St) : Prop where
  old : ∀ th ∈ s.alive, s.born.contains th.uid = false → s.snapshot.contains th.ident = true
  new : ∀ th ∈ s.alive, s.born.contains th.uid = true → s.snapshot.contains th.ident = false

/-- the guard: a started thread never gets the ident of a thread of the current snapshot, and uids
are fresh -/
def StepOk (s : St) : HEv → Prop
  | .start th => s.snapshot.contains th.ident = false ∧ (∀ x ∈ s.alive, x.uid ≠ th.uid)
  | _ => True

theorem inv_iff {s : St} :
    Inv s ↔ ∀ th ∈ s.alive, s.snapshot.contains th.ident = !s.born.contains th.uid := by
  constructor
  · intro hi th h
    cases hb : s.born.contains th.uid
    · exact hi.old th h hb
    · exact hi.new th h hb
  · intro h
    exact ⟨fun th hth hb => (h th hth).trans (congrArg (!·) hb),
      fun th hth hb => (h th hth).trans (congrArg (!·) hb)⟩

theorem inv_step (s : St) (e : HEv) (hi : Inv s) (hok : StepOk s e) : Inv (step s e) := by
  rw [inv_iff] at hi ⊢
  intro x hx
  cases e with
  | start th =>
    show s.snapshot.contains x.ident = !(s.born ++ [th.uid]).contains x.uid
    rw [List.contains_append, List.contains_cons, List.contains_nil, Bool.or_false]
    rcases List.mem_append.1 hx with hx | hx
    · rw [beq_false_of_ne (hok.2 x hx), Bool.or_false]
      exact hi x hx
    · rw [List.mem_singleton.1 hx, beq_self_eq_true, Bool.or_true]
      exact hok.1
  | finish u => exact hi x (List.mem_filter.1 hx).1
  | rename u b =>
    obtain ⟨y, hy, rfl⟩ := List.mem_map.1 hx
    show s.snapshot.contains (if y.uid == u then { y with ignored := b } else y).ident =
      !s.born.contains (if y.uid == u then { y with ignored := b } else y).uid
    split <;> exact hi y hy
  | testStart => exact List.contains_iff_mem.2 (List.mem_map_of_mem hx)
  | testStop => exact hi x hx

def HistOk : St → List HEv → Prop
  | _, [] => True
  | s, e :: r => StepOk s e ∧ HistOk (step s e) r

theorem report_eq_spec (s : St) (hi : Inv s) : ∃ l : List Nat,
    (step s .testStop).reports = s.reports ++ [l] ∧ (step s .testStop).spec = s.spec ++ [l] ∧
      ∀ u ∈ l, u ∈ s.born := by
  refine ⟨_, ?_, rfl, fun u hu => ?_⟩
  · refine congrArg (fun l : List Th => s.reports ++ [l.map (·.uid)]) (List.filter_congr fun th hth => ?_)
    rw [inv_iff.1 hi th hth, Bool.not_not]
  · obtain ⟨th, hth, rfl⟩ := List.mem_map.1 hu
    exact List.contains_iff_mem.1 (Bool.and_eq_true_iff.1 (List.mem_filter.1 hth).2).1

/-- **C19_exact** — for every history of thread starts/ends and tests in which no thread started
during a test receives the identifier of a thread of that test's snapshot: after each test the runner
reports exactly the threads started during that test (through any API), still running when it ends,
and not ignored — never a thread that existed before, never one that has finished, never an ignored
one. -/
theorem C19_exact : ∀ (h : List HEv) (s : St), Inv s → HistOk s h → s.reports = s.spec →
    (h.foldl step s).reports = (h.foldl step s).spec
  | [], _, _, _, he => he
  | e :: r, s, hi, hok, he => by
    refine C19_exact r (step s e) (inv_step s e hi hok.1) hok.2 ?_
    cases e with
    | testStop =>
      obtain ⟨l, e1, e2, _⟩ := report_eq_spec s hi
      rw [e1, e2, he]
    | _ => exact he

theorem C19_exact_run (h : List HEv) (hok : HistOk {} h) : (run h).reports = (run h).spec :=
  C19_exact h {} (inv_iff.2 fun _ h => nomatch h) hok rfl

/-- **C19_only_once** — a thread that is still running at the next `startTest` is in that snapshot and
is therefore never reported for the later test. -/
theorem C19_only_once (s : St) (th : Th) (h : th ∈ s.alive) :
    th.uid ∉ ((step (step s .testStart) .testStop).reports.getLast?.getD []) := by
  -- the snapshot just taken makes the invariant true, and nothing has been born since
  obtain ⟨l, e, _, hl⟩ := report_eq_spec (step s .testStart)
    (inv_iff.2 fun x hx => List.contains_iff_mem.2 (List.mem_map_of_mem hx))
  rw [e, List.getLast?_concat]
  exact fun hu => nomatch hl _ hu

/-- D12 (known finding): without the guard a leaked thread is missed — thread 1 (ident 5) is alive at
the snapshot and ends inside the test; thread 2 is started inside the test, gets the same ident 5 and is
left behind: nothing is reported although the property demands thread 2. -/
theorem C19_reuse_witness :
    let h := [HEv.start ⟨1, 5, false⟩, .testStart, .finish 1, .start ⟨2, 5, false⟩, .testStop]
    (run h).reports = [[]] ∧ (run h).spec = [[2]] := by decide

-- non-vacuity: a history with an old thread, a finished one, an ignored one and a leaked one
example : (run [.start ⟨1, 10, false⟩, .testStart, .start ⟨2, 11, false⟩, .start ⟨3, 12, true⟩,
    .start ⟨4, 13, false⟩, .finish 2, .testStop, .testStart, .testStop]).reports = [[4], []] := by decide

end Ztr.Threads
