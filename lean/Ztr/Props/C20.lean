import Ztr.Model.Digraph
/-! # C20 — strongly connected components

Stage A: at every moment every node is in exactly one of `unvisited`, `stack`, or one yielded component.
-/
namespace Ztr.Digraph

inductive Reaches (nbrs : Nat → List Nat) : Nat → Nat → Prop
  | refl (a) : Reaches nbrs a a
  | step {a b c} : b ∈ nbrs a → Reaches nbrs b c → Reaches nbrs a c

theorem Reaches.trans {nbrs : Nat → List Nat} {a b c : Nat} (h1 : Reaches nbrs a b) (h2 : Reaches nbrs b c) :
    Reaches nbrs a c := by
  induction h1 with
  | refl _ => exact h2
  | step hm _ ih => exact Reaches.step hm (ih h2)

theorem Reaches.edge {nbrs : Nat → List Nat} {a b : Nat} (h : b ∈ nbrs a) : Reaches nbrs a b :=
  Reaches.step h (Reaches.refl b)

theorem Reaches.closed {nbrs : Nat → List Nat} {P : Nat → Prop} (hc : ∀ x, P x → ∀ m ∈ nbrs x, P m)
    {a b : Nat} (h : Reaches nbrs a b) : P a → P b := by
  induction h with
  | refl _ => exact id
  | step hm _ ih => exact fun ha => ih (hc _ ha _ hm)

/-- the full statement (proved as `C20_full` in `C20C.lean`): all nodes are yielded, the components are the
mutual-reachability classes, the default mode yields the non-trivial components in the same order -/
def C20_spec (order : List Nat) (nbrs : Nat → List Nat) : Prop :=
  let fuel := fuelFor order nbrs
  let t := sccs true order nbrs fuel
  let f := sccs false order nbrs fuel
  t.2 = true ∧ t.1.flatten.Perm order ∧
  (∀ c ∈ t.1, ∀ x ∈ c, ∀ y, (y ∈ c ↔ Reaches nbrs x y ∧ Reaches nbrs y x)) ∧
  f.1 = t.1.filter (fun c => !isTrivialScc nbrs c)

/-- `lowerLow` and `foldIntoParent` touch `low` only: whatever does not read `low` survives them -/
theorem lowerLow_eq (s : St) (p v : Nat) : lowerLow s p v = { s with low := (lowerLow s p v).low } := by
  unfold lowerLow
  split <;> rfl

theorem foldIntoParent_eq (s : St) (node : Nat) :
    foldIntoParent s node = { s with low := (foldIntoParent s node).low } := by
  unfold foldIntoParent
  split
  · rfl
  · exact lowerLow_eq s _ _

theorem popUntil_append (node : Nat) {pre : List Nat} (rest : List Nat) (h : node ∉ pre) (acc : List Nat) :
    popUntil node (pre ++ node :: rest) acc = (acc.reverse ++ (pre ++ [node]), rest) := by
  induction pre generalizing acc with
  | nil => simp [popUntil]
  | cons n pre ih =>
    have hn : n ≠ node := fun e => h (e ▸ List.mem_cons_self)
    rw [List.cons_append, popUntil, if_neg hn, ih (fun hm => h (List.mem_cons_of_mem _ hm))]
    simp

/-- **C20_emitted_is_segment** — the component popped at a root is the stack segment from the top
down to (and including) the root, in pop order; the rest of the stack is untouched. -/
theorem C20_emitted_is_segment (node : Nat) (st : List Nat) (h : node ∈ st) :
    ∃ pre, (popUntil node st []).1 = pre ++ [node] ∧ node ∉ pre ∧
      st = (popUntil node st []).1 ++ (popUntil node st []).2 := by
  obtain ⟨pre, rest, rfl, hpre⟩ := List.eq_append_cons_of_mem h
  rw [popUntil_append node rest hpre]
  exact ⟨pre, List.nil_append _, hpre, by simp⟩

/-- the branches of `step true`, one constructor each; `stuck` and `skipOrphan` are the two that the model
marks unreachable.  The state after `root`, `emit (popScc (popFrame s vs anc) (C, R)) C` in the model, is written
out: through the three nested updates each reading of a field is slow to check. -/
inductive Step (nbrs : Nat → List Nat) (s : St) : Option St → Prop
  | halt : s.visits = [] → s.unvisited = [] → Step nbrs s none
  | pick {n rest} : s.visits = [] → s.unvisited = n :: rest → Step nbrs s (some { s with visits := [some n] })
  | stuck {vs} : s.visits = none :: vs → s.ancestors = [] → Step nbrs s none
  | root {node anc vs C R} : s.visits = none :: vs → s.ancestors = node :: anc → s.low node = (s.num node).getD 0 →
      popUntil node s.stack [] = (C, R) →
      Step nbrs s (some (foldIntoParent
        { s with visits := vs, ancestors := anc, stack := R, out := C :: s.out,
                 stacked := fun x => if x ∈ C then false else s.stacked x } node))
  | nonroot {node anc vs} : s.visits = none :: vs → s.ancestors = node :: anc →
      s.low node ≠ (s.num node).getD 0 → Step nbrs s (some (foldIntoParent (popFrame s vs anc) node))
  | skip {node d vs} : s.visits = some node :: vs → s.num node = some d → s.stacked node = false →
      Step nbrs s (some { s with visits := vs })
  | skipLow {node d vs p rest} : s.visits = some node :: vs → s.num node = some d → s.stacked node = true →
      s.ancestors = p :: rest → Step nbrs s (some (lowerLow { s with visits := vs } p d))
  | skipOrphan {node d vs} : s.visits = some node :: vs → s.num node = some d → s.stacked node = true →
      s.ancestors = [] → Step nbrs s (some { s with visits := vs })
  | expand {node vs} : s.visits = some node :: vs → s.num node = none →
      Step nbrs s (some (expand nbrs s node vs))

theorem step_spec (nbrs : Nat → List Nat) (s : St) : Step nbrs s (step true nbrs s) := by
  unfold step
  split
  · split
    · exact .halt ‹_› ‹_›
    · exact .pick ‹_› ‹_›
  · split
    · exact .stuck ‹_› ‹_›
    · simp only [Bool.not_true, Bool.false_and, Bool.false_eq_true, if_false, emit, popScc, popFrame]
      split
      · exact .root ‹_› ‹_› ‹_› rfl
      · exact .nonroot ‹_› ‹_› ‹_›
  · split
    · split
      · split
        · exact .skipOrphan ‹_› ‹_› ‹_› ‹_›
        · exact .skipLow ‹_› ‹_› ‹_› ‹_›
      · exact .skip ‹_› ‹_› (Bool.eq_false_iff.2 ‹_›)
    · exact .expand ‹_› ‹_›

theorem run_inv {t : Bool} {nbrs : Nat → List Nat} {P : St → Prop}
    (hstep : ∀ {s s'}, P s → step t nbrs s = some s' → P s') :
    ∀ (fuel : Nat) (s : St), P s → P (run t nbrs fuel s).1
  | 0, _, h => h
  | f + 1, s, h => by
    unfold run
    cases hs : step t nbrs s with
    | none => exact h
    | some s' => exact run_inv hstep f s' (hstep h hs)

structure Inv (order : List Nat) (s : St) : Prop where
  perm : (s.unvisited ++ s.stack ++ s.out.flatten).Perm order
  anc : s.ancestors.Sublist s.stack
  unv : ∀ v, v ∈ order → (s.num v = none ↔ v ∈ s.unvisited)
  vis : ∀ v, some v ∈ s.visits → v ∈ order

theorem inv_init (order : List Nat) : Inv order (init order) where
  perm := by simp [init]
  anc := by simp [init]
  unv := by intro v hv; simp [init, hv]
  vis := by intro v hv; simp [init] at hv

theorem Inv.nodup {order : List Nat} (hnd : order.Nodup) {s : St} (h : Inv order s) :
    (s.unvisited ++ s.stack ++ s.out.flatten).Nodup := h.perm.nodup_iff.2 hnd

theorem Inv.pick {order : List Nat} {s : St} (h : Inv order s) {n : Nat} {rest : List Nat}
    (hu : s.unvisited = n :: rest) : Inv order { s with visits := [some n] } := by
  refine ⟨h.perm, h.anc, h.unv, fun v hv => ?_⟩
  cases List.mem_singleton.1 hv
  exact h.perm.subset (by simp [hu])

theorem Inv.visited {order : List Nat} (hnd : order.Nodup) {s : St} (h : Inv order s) {x : Nat}
    (hx : x ∈ s.stack ++ s.out.flatten) : s.num x ≠ none := by
  have hnd' := h.nodup hnd
  rw [List.append_assoc] at hnd'
  intro hn
  have hxu := (h.unv x (h.perm.subset (List.append_assoc .. ▸ List.mem_append_right _ hx))).1 hn
  exact (List.nodup_append.1 hnd').2.2 x hxu x hx rfl

theorem inv_step {order : List Nat} {nbrs : Nat → List Nat} (hnd : order.Nodup)
    (hclosed : ∀ n, ∀ m ∈ nbrs n, m ∈ order) {s s' : St}
    (h : Inv order s) (hs : step true nbrs s = some s') : Inv order s' := by
  have hvis : ∀ {v vs}, s.visits = v :: vs → ∀ x, some x ∈ vs → x ∈ order :=
    fun hv x hx => h.vis x (hv ▸ List.mem_cons_of_mem _ hx)
  cases hs ▸ step_spec nbrs s with
  | pick _ hu => exact h.pick hu
  | @root node anc vs C R hv ha _ hr =>
    have hsub : (node :: anc).Sublist s.stack := ha ▸ h.anc
    obtain ⟨pre, rest, hst, hpre⟩ := List.eq_append_cons_of_mem (hsub.subset List.mem_cons_self)
    have hperm := h.perm
    rw [hst] at hsub hperm
    rw [hst, popUntil_append node rest hpre] at hr
    obtain ⟨rfl, rfl⟩ := Prod.mk.inj hr
    rw [foldIntoParent_eq]
    refine ⟨List.Perm.trans ?_ hperm, ?_, h.unv, hvis hv⟩
    · simp only [List.flatten_cons, List.append_assoc]
      exact ((List.perm_append_comm_assoc rest pre _).trans (List.perm_middle.append_left pre)).append_left _
    · -- `node` is matched at its only place outside `pre`, the ancestors below it inside `rest`
      obtain ⟨l₁, l₂, e, h₁, h₂⟩ := List.sublist_append_iff.1 hsub
      cases l₁ with
      | nil =>
        cases e
        exact List.cons_sublist_cons.1 h₂
      | cons b l =>
        cases e
        exact absurd (h₁.subset List.mem_cons_self) hpre
  | nonroot hv ha _ =>
    rw [foldIntoParent_eq]
    exact ⟨h.perm, (List.sublist_cons_self _ _).trans (ha ▸ h.anc), h.unv, hvis hv⟩
  | skip hv _ _ | skipOrphan hv _ _ _ => exact ⟨h.perm, h.anc, h.unv, hvis hv⟩
  | skipLow hv _ _ _ =>
    rw [lowerLow_eq]
    exact ⟨h.perm, h.anc, h.unv, hvis hv⟩
  | @expand node vs hv hnum =>
    have hun : node ∈ s.unvisited := (h.unv node (h.vis node (hv ▸ List.mem_cons_self))).1 hnum
    have hndu : s.unvisited.Nodup := (List.nodup_append.1 (List.nodup_append.1 (h.nodup hnd)).1).1
    refine ⟨?_, h.anc.cons_cons node, fun v hv' => ?_, fun v hv' => ?_⟩
    · refine List.Perm.trans ?_ h.perm
      show (s.unvisited.erase node ++ (node :: s.stack) ++ s.out.flatten).Perm _
      simp only [List.append_assoc, List.cons_append]
      exact List.perm_middle.trans ((List.perm_cons_erase hun).symm.append_right _)
    · show upd s.num node (some s.counter) v = none ↔ v ∈ s.unvisited.erase node
      rw [hndu.mem_erase_iff, ← h.unv v hv', upd]
      by_cases e : v = node <;> simp [e]
    · rcases List.mem_append.1 hv' with hm | hm
      · obtain ⟨m, hm, e⟩ := List.mem_map.1 hm
        cases e
        exact hclosed node v (List.mem_reverse.1 hm)
      · rcases List.mem_cons.1 hm with e | hm
        · cases e
        · exact hvis hv v hm

theorem inv_run {order : List Nat} {nbrs : Nat → List Nat} (hnd : order.Nodup)
    (hclosed : ∀ n, ∀ m ∈ nbrs n, m ∈ order) :
    ∀ (fuel : Nat) (s : St), Inv order s → Inv order (run true nbrs fuel s).1 :=
  run_inv (inv_step hnd hclosed)

/-- **C20_disjoint_partial** — for every graph whose neighbour lists stay inside the node set,
every iteration order and every number of steps: each node is in exactly one of `unvisited`, the
stack, or one yielded component (so components are duplicate-free, pairwise disjoint, and contain
only graph nodes), and no node is lost. -/
theorem C20_disjoint_partial (order : List Nat) (nbrs : Nat → List Nat) (hnd : order.Nodup)
    (hclosed : ∀ n, ∀ m ∈ nbrs n, m ∈ order) (fuel : Nat) :
    let s := (run true nbrs fuel (init order)).1
    (s.unvisited ++ s.stack ++ s.out.flatten).Perm order ∧ (s.out.flatten).Nodup := by
  have h := inv_run hnd hclosed fuel (init order) (inv_init order)
  exact ⟨h.perm, (List.nodup_append.1 (h.nodup hnd)).2.1⟩

end Ztr.Digraph
