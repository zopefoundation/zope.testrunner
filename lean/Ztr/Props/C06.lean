import Ztr.Model.Sched
/-! # C06 — `-j N`: output ordered per layer, at most N alive, up to N at once (scheduler part)

The equality of the outcomes with the sequential run is `C06_equals_sequential` (`Props/C06Run`); here: the
parent's scheduling.

The two loops of a pass are given in closed form (`startSome_eq`, `printDone_eq`); one invariant of the
transition system (`Reach`) carries the bound and the order of the blocks. -/
namespace Ztr.Sched

theorem startSome_eq (f : Nat) (s : SS) : ∃ m, m ≤ f ∧ m ≤ s.ready.length ∧
    startSome f s = { s with ready := s.ready.drop m, running := s.running ++ s.ready.take m } ∧
    (s.running.length ≤ s.n → s.running.length + m ≤ s.n) ∧
    (m < f → m = s.ready.length ∨ s.n ≤ s.running.length + m) := by
  have stop (s : SS) : s = { s with running := s.running ++ [] } :=
    congrArg (fun r => { s with running := r }) (List.append_nil s.running).symm
  fun_induction startSome f s with
  | case1 s => -- no fuel
    exact ⟨0, Nat.le_refl _, Nat.zero_le _, stop s, id, fun h => absurd h (Nat.not_lt_zero _)⟩
  | case2 f s h => -- nothing ready
    exact ⟨0, Nat.zero_le _, Nat.zero_le _, stop s, id, fun _ => Or.inl (h ▸ rfl)⟩
  | case3 f s i rest h hlt ih => -- a slot is free: child `i` starts
    obtain ⟨m, hm, hr, e, hA, hB⟩ := ih
    refine ⟨m + 1, Nat.succ_le_succ hm, h ▸ Nat.succ_le_succ hr, ?_, fun _ => ?_, fun hlt' => ?_⟩
    · rw [e, h, List.append_assoc]
      rfl
    · have : (s.running ++ [i]).length + m ≤ s.n := hA (List.length_append ▸ hlt)
      rwa [List.length_append, Nat.add_right_comm] at this
    · have : m = rest.length ∨ s.n ≤ (s.running ++ [i]).length + m :=
        hB (Nat.lt_of_succ_lt_succ hlt')
      rw [List.length_append, Nat.add_right_comm] at this
      exact h ▸ this.imp (congrArg (· + 1)) id
  | case4 f s i rest h hlt => -- all slots taken
    exact ⟨0, Nat.zero_le _, Nat.zero_le _, stop s, id, fun _ => Or.inr (Nat.le_of_not_lt hlt)⟩

/-- **C06_progress** — the start loop fills up to N slots: after it, `running` has
`min N (running + ready)` entries (up to N layers do make progress at the same time). -/
theorem C06_progress : ∀ (f : Nat) (s : SS), s.ready.length = f → s.running.length ≤ s.n →
    (startSome f s).running.length = min s.n (s.running.length + s.ready.length) := by
  intro f s hf h
  obtain ⟨m, hm, hr, e, hA, hB⟩ := startSome_eq f s
  rw [e]
  show (s.running ++ s.ready.take m).length = _
  rw [List.length_append, List.length_take, Nat.min_eq_left hr]
  rcases Nat.lt_or_ge m f with hlt | hge
  · -- stopped early although a child was ready: all slots are taken
    have hn := (hB hlt).resolve_left (hf ▸ Nat.ne_of_lt hlt)
    rw [Nat.min_eq_left (Nat.le_trans hn (Nat.add_le_add_left hr _))]
    exact Nat.le_antisymm (hA h) hn
  · rw [← Nat.le_antisymm hr (hf ▸ hge), Nat.min_eq_right (hA h)]

theorem printDone_eq (f : Nat) (s : SS) : ∃ m, m ≤ f ∧
    printDone f s = { s with printed := s.printed ++ (List.range' s.cur m).map (fun i => (i, s.buf i)),
                             cur := s.cur + m } ∧
    (∀ i, i < m → s.cur + i < s.k ∧ s.doneF (s.cur + i) = true) ∧
    (m < f → ¬(s.cur + m < s.k ∧ s.doneF (s.cur + m) = true)) := by
  have stop (s : SS) : s = { s with printed := s.printed ++ [] } :=
    congrArg (fun p => { s with printed := p }) (List.append_nil s.printed).symm
  fun_induction printDone f s with
  | case1 s => -- no fuel
    exact ⟨0, Nat.le_refl _, stop s, fun _ h => absurd h (Nat.not_lt_zero _), fun h => absurd h (Nat.not_lt_zero _)⟩
  | case2 f s hc ih => -- the current child is done: its block is written
    obtain ⟨m, hm, e, hA, hB⟩ := ih
    refine ⟨m + 1, Nat.succ_le_succ hm, ?_, fun i hi => ?_, fun h => ?_⟩
    · rw [e, List.append_assoc, Nat.add_right_comm]
      rfl
    · cases i with
      | zero => exact hc
      | succ i =>
        have : s.cur + 1 + i < s.k ∧ s.doneF (s.cur + 1 + i) = true :=
          hA i (Nat.lt_of_succ_lt_succ hi)
        rwa [Nat.add_right_comm] at this
    · have : ¬(s.cur + 1 + m < s.k ∧ s.doneF (s.cur + 1 + m) = true) :=
        hB (Nat.lt_of_succ_lt_succ h)
      rwa [Nat.add_right_comm] at this
  | case3 f s hc => -- no child left, or the current one is not done
    exact ⟨0, Nat.zero_le _, stop s, fun _ h => absurd h (Nat.not_lt_zero _), fun _ => hc⟩

/-- **C06_prints_all_done** — one pass of the loop prints every leading done child: afterwards
`current_result` is the first child that is not done, or none is left. -/
theorem C06_prints_all_done : ∀ (f : Nat) (s : SS), s.k - s.cur ≤ f → s.cur ≤ s.k →
    (printDone f s).cur = (printDone f s).k ∨ (printDone f s).doneF (printDone f s).cur = false := by
  intro f s hf hle
  obtain ⟨m, _, e, hA, hB⟩ := printDone_eq f s
  rw [e]
  show s.cur + m = s.k ∨ s.doneF (s.cur + m) = false
  rcases Nat.lt_or_ge (s.cur + m) s.k with hlt | hge
  · -- it stopped with fuel left, at a child that is not done
    have hm : m < f := Nat.lt_of_lt_of_le (Nat.lt_sub_of_add_lt (Nat.add_comm .. ▸ hlt)) hf
    exact Or.inr (Bool.eq_false_iff.2 fun hd => hB hm ⟨hlt, hd⟩)
  · refine Or.inl (Nat.le_antisymm ?_ hge)
    cases m with
    | zero => exact hle
    | succ m => exact (hA m (Nat.lt_succ_self m)).1

structure Reach (n k : Nat) (s : SS) : Prop where
  n_eq : s.n = n
  k_eq : s.k = k
  run_le : s.running.length ≤ n
  max_le : s.maxRunning ≤ n
  shown : s.printed = (List.range s.cur).map fun i => (i, s.buf i)
  done_lt : ∀ i, i < s.cur → s.doneF i = true
  cur_le : s.cur ≤ k

variable {n k : Nat} {s : SS}

theorem Reach.startSome (h : Reach n k s) (f : Nat) : Reach n k (startSome f s) := by
  obtain ⟨m, _, hr, e, hA, _⟩ := startSome_eq f s
  rw [e]
  refine { h with run_le := ?_ }
  show (s.running ++ s.ready.take m).length ≤ n
  rw [List.length_append, List.length_take, Nat.min_eq_left hr]
  exact h.n_eq ▸ hA (h.n_eq ▸ h.run_le)

theorem Reach.printDone (h : Reach n k s) (f : Nat) : Reach n k (printDone f s) := by
  obtain ⟨m, _, e, hA, _⟩ := printDone_eq f s
  rw [e]
  refine { h with shown := ?_, done_lt := fun i hi => ?_, cur_le := ?_ }
  · have hr : List.range (s.cur + m) = List.range s.cur ++ List.range' s.cur m := by
      rw [List.range_eq_range', List.range_eq_range', ← List.range'_append_1, Nat.zero_add]
    show s.printed ++ (List.range' s.cur m).map (fun i => (i, s.buf i)) =
      (List.range (s.cur + m)).map fun i => (i, s.buf i)
    rw [hr, List.map_append, ← h.shown]
  · rcases Nat.lt_or_ge i s.cur with hlt | hge
    · exact h.done_lt i hlt
    · have := (hA (i - s.cur) (Nat.sub_lt_left_of_lt_add hge hi)).2
      rwa [Nat.add_sub_cancel' hge] at this
  · cases m with
    | zero => exact h.cur_le
    | succ m => exact h.k_eq ▸ (hA m (Nat.lt_succ_self m)).1

theorem Reach.note (h : Reach n k s) : Reach n k (note s) :=
  { h with max_le := Nat.max_le.2 ⟨h.max_le, h.run_le⟩ }

theorem Reach.reap (h : Reach n k s) : Reach n k (reap s) :=
  { h with run_le := Nat.le_trans (List.length_filter_le ..) h.run_le }

theorem Reach.step (h : Reach n k s) (l : Label) : Reach n k (step s l) := by
  cases l with
  | iter => exact (h.startSome _).note.reap.printDone _
  | line i ln =>
    refine iteInduction (motive := Reach n k) (fun hc => ?_) fun _ => h
    refine { h with shown := ?_ }
    -- a child that still writes is not done, so it is not among the children displayed
    refine h.shown.trans (List.map_congr_left fun j hj => ?_)
    have hd : s.doneF i = false := Bool.not_eq_true' _ ▸ (Bool.and_eq_true_iff.1 hc).2
    have hne : j ≠ i := fun e =>
      Bool.false_ne_true (hd.symm.trans (e ▸ h.done_lt j (List.mem_range.1 hj)))
    simp only [addLine, hne, if_false]
  | dots i => exact iteInduction (motive := Reach n k) (fun _ => { h with }) fun _ => h
  | done i =>
    refine iteInduction (motive := Reach n k) (fun _ => ?_) fun _ => h
    refine { h with done_lt := fun j hj => ?_ }
    show (if j = i then true else s.doneF j) = true
    split
    · rfl
    · exact h.done_lt j hj
  | dead i => exact iteInduction (motive := Reach n k) (fun _ => { h with }) fun _ => h

theorem reach_exec (n k : Nat) (ls : List Label) : Reach n k (exec ls (init n k)) :=
  List.foldlRecOn ls step (motive := Reach n k)
    ⟨rfl, rfl, Nat.zero_le _, Nat.zero_le _, rfl, fun _ h => absurd h (Nat.not_lt_zero _), Nat.zero_le _⟩
    fun _ h l _ => h.step l

/-- **C06_at_most_N** — for every schedule (every completion order, every interleaving of output
lines), every number of layers and every N: never more than N entries in `running_threads`
(not even transiently: `maxRunning`); a child is alive only while its thread is in that list, so
never more than N children are alive. -/
theorem C06_at_most_N (n k : Nat) (ls : List Label) :
    (exec ls (init n k)).running.length ≤ n ∧ (exec ls (init n k)).maxRunning ≤ n :=
  ⟨(reach_exec n k ls).run_le, (reach_exec n k ls).max_le⟩

structure Ordered (s : SS) : Prop where
  idx : s.printed.map (·.1) = List.range s.cur
  content : ∀ p ∈ s.printed, p.2 = s.buf p.1 ∧ s.doneF p.1 = true
  le : s.cur ≤ s.k

theorem Reach.ordered (h : Reach n k s) : Ordered s := by
  refine ⟨?_, fun p hp => ?_, h.k_eq ▸ h.cur_le⟩
  · rw [h.shown, List.map_map]
    exact List.map_id _
  · rw [h.shown] at hp
    obtain ⟨i, hi, rfl⟩ := List.mem_map.1 hp
    exact ⟨rfl, h.done_lt i (List.mem_range.1 hi)⟩

/-- **C06_blocks_in_order** — whatever order the children finish in and however their output lines
interleave, what the parent has printed at any moment is the complete output of children
`0, 1, …, cur-1`, one contiguous block each, in the sequential layer order; a finished child whose
predecessors are still running is held back. -/
theorem C06_blocks_in_order (n k : Nat) (ls : List Label) :
    let s := exec ls (init n k)
    s.printed.map (·.1) = List.range s.cur ∧ (∀ p ∈ s.printed, p.2 = s.buf p.1 ∧ s.doneF p.1 = true) ∧ s.cur ≤ k :=
  have h := reach_exec n k ls
  ⟨h.ordered.idx, h.ordered.content, h.cur_le⟩

-- non-vacuity: 3 children, N = 2, finishing in the order 2, 0, 1 with interleaved lines
example : (exec [.iter, .line 1 11, .line 0 10, .done 1, .dead 1, .iter, .iter, .line 2 12, .done 2, .dead 2, .iter,
    .done 0, .dead 0, .iter] (init 2 3)).printed = [(0, [10]), (1, [11]), (2, [12])] := by decide

end Ztr.Sched
