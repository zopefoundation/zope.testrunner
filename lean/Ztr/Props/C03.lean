import Ztr.Props.C10
import Ztr.Model.Runner
/-! # C03 — exactly the selected tests run, once each, and every mode agrees (partial)

Proved here: the layer loop of a process visits every registered layer exactly once, each with
exactly its registered test list (the list `--list-tests` prints), in the `order_by_bases` order;
a child process visits only its `--resume-layer`.  Selection itself (which tests are registered
under which layer) is `C09_nearest` / `C08_spec`; what a visit executes, and in which process, is
`Props/C03Run`.  That all modes agree is checked by the correspondence (monitor), not proved. -/
namespace Ztr.Runner
open Ztr.Layers

/-- keys of `tests_by_layer_name` are distinct (it is a dict) -/
def GroupsOk (w : World) : Prop := (w.groups.map (·.1)).Nodup

theorem map_filterMap_find {gs : List (Nat × List Proto.TestDef)} : ∀ {order : List Nat},
    (∀ l ∈ order, l ∈ gs.map (·.1)) →
    (order.filterMap fun l => gs.find? fun (g : Nat × List Proto.TestDef) => g.1 == l).map (·.1) = order
  | [], _ => rfl
  | l :: ls, h => by
    obtain ⟨g0, hg0, e0⟩ := List.mem_map.1 (h l (by simp))
    obtain ⟨g, hg⟩ := Option.isSome_iff_exists.1
      (List.find?_isSome (p := fun (g : Nat × List Proto.TestDef) => g.1 == l).2 ⟨g0, hg0, beq_iff_eq.2 e0⟩)
    rw [List.filterMap_cons, hg, List.map_cons, map_filterMap_find fun x hx => h x (by simp [hx])]
    simpa using List.find?_some hg

/-- **C03_layers_once** — the parent (or sequential) process runs every registered layer exactly
once, no other layer, each with a registered group. -/
theorem C03_layers_once (w : World) (o : Opts) (hr : o.resume = none) :
    ((orderedLayers w o).map (·.1)).Nodup ∧
    (∀ l, l ∈ (orderedLayers w o).map (·.1) ↔ l ∈ w.groups.map (·.1)) ∧
    (∀ g ∈ orderedLayers w o, g ∈ w.groups) := by
  unfold orderedLayers
  simp only [hr]
  obtain ⟨hnd, hmem⟩ := C10_once w.graph (w.groups.map (·.1))
  rw [map_filterMap_find fun l hl => (hmem l).1 hl]
  refine ⟨hnd, hmem, fun g hg => ?_⟩
  obtain ⟨l, _, hl⟩ := List.mem_filterMap.1 hg
  exact List.mem_of_find?_eq_some hl

/-- **C03_child_one_layer** — a child process (`--resume-layer L`) runs no layer other than `L`. -/
theorem C03_child_one_layer (w : World) (o : Opts) (l n : Nat) (hr : o.resume = some (l, n)) :
    ∀ g ∈ orderedLayers w o, g.1 = l ∧ g ∈ w.groups := by
  unfold orderedLayers
  simp only [hr]
  intro g hg
  obtain ⟨x, _, hx⟩ := List.mem_filterMap.1 hg
  have hm := List.mem_of_find?_eq_some hx
  have := List.mem_filter.1 hm
  exact ⟨by simpa using this.2, this.1⟩

theorem filter_key_unique {l : Nat} {tests : List Proto.TestDef} : ∀ {gs : List (Nat × List Proto.TestDef)},
    (gs.map (·.1)).Nodup → (l, tests) ∈ gs → gs.filter (fun g => g.1 == l) = [(l, tests)]
  | [], _, h => by simp at h
  | g :: gs, hnd, h => by
    simp only [List.map_cons, List.nodup_cons] at hnd
    rcases List.mem_cons.1 h with e | e
    · subst e
      simp only [List.filter_cons, beq_self_eq_true, if_true]
      congr 1
      apply List.filter_eq_nil_iff.2
      intro x hx hxl
      have : x.1 = l := by simpa using hxl
      exact hnd.1 (this ▸ List.mem_map.2 ⟨x, hx, rfl⟩)
    · have hne : ¬ (g.1 == l) = true := by
        intro hh
        have : g.1 = l := by simpa using hh
        exact hnd.1 (this ▸ List.mem_map.2 ⟨(l, tests), e, rfl⟩)
      rw [List.filter_cons, if_neg hne]
      exact filter_key_unique hnd.2 e

theorem child_one_layer (w : World) (o : Opts) (hr : o.resume.isSome = true) :
    (orderedLayers w o).length ≤ 1 := by
  obtain ⟨⟨l, n⟩, hres⟩ := Option.isSome_iff_exists.1 hr
  unfold orderedLayers
  simp only [hres]
  refine Nat.le_trans (List.length_filterMap_le _ _) ?_
  obtain ⟨hnd, hmem⟩ := C10_once w.graph ((w.groups.filter (fun (g : Nat × List Proto.TestDef) => g.1 == l)).map (·.1))
  -- a list without repetition all of whose members are `l`
  have hall : ∀ x ∈ orderByBases w.graph ((w.groups.filter (fun (g : Nat × List Proto.TestDef) => g.1 == l)).map (·.1)),
      x = l := fun x hx => by
    obtain ⟨g, hg, rfl⟩ := List.mem_map.1 ((hmem x).1 hx)
    simpa using (List.mem_filter.1 hg).2
  rw [List.eq_replicate_iff.2 ⟨rfl, hall⟩] at hnd
  exact List.nodup_replicate.1 hnd

theorem orderedLayers_child (w : World) (o : Opts) (l n : Nat) (tests : List Proto.TestDef)
    (hnd : (w.groups.map (·.1)).Nodup) (hg : (l, tests) ∈ w.groups) :
    orderedLayers w { o with resume := some (l, n) } = [(l, tests)] := by
  unfold orderedLayers
  simp only []
  rw [filter_key_unique hnd hg]
  simp [orderByBases_singleton]

end Ztr.Runner
