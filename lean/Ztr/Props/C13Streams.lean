import Ztr.Model.Streams
/-
C13 / C18 / C04 at the level of stream objects (Model/Streams): what holds whatever test code does to the
standard streams - write, close the stream it finds, put a saved stream back, in any order and any number
of times, between any runner operations.
-/
namespace Ztr.Streams

structure Inv (s : St) : Prop where
  flagBufs : s.flag = true → s.bufOut.isSome = true ∧ s.bufErr.isSome = true
  genOut : ∀ b, s.bufOut = some b → b.gen < s.nextGen
  genErr : ∀ b, s.bufErr = some b → b.gen < s.nextGen
  distinct : ∀ b c, s.bufOut = some b → s.bufErr = some c → b.gen ≠ c.gen
  quiet : s.raised = false

theorem inv_init : Inv {} := by
  constructor <;> simp

/-! Writing to a held capture stream or closing it changes what it holds, not which object it is:
the generation stays.  `Inv` and `isHeld` look at nothing else. -/

theorem writeBuf_gen (r : Ref) (tok : Nat) (o : Option Buf) :
    (writeBuf r tok o).map (·.gen) = o.map (·.gen) := by
  cases o with
  | none => rfl
  | some b => simp only [writeBuf]; split <;> rfl

theorem closeBuf_gen (r : Ref) (o : Option Buf) : (closeBuf r o).map (·.gen) = o.map (·.gen) := by
  cases o with
  | none => rfl
  | some b => simp only [closeBuf]; split <;> rfl

/-- `_takeBufferedOutput` keeps the stream or drops it -/
theorem take_gen (o : Option Buf) (b : Buf) (h : (take o).1 = some b) : o.map (·.gen) = some b.gen := by
  cases o with
  | none => cases h
  | some b0 =>
    simp only [take] at h
    split at h <;> cases h
    rfl

theorem isHeld_eq (r : Ref) (o : Option Buf) : isHeld r o = (o.map (·.gen)).any (r == .buf ·) := by
  cases o <;> rfl

theorem Inv.shrink {s s' : St} (h : Inv s)
    (ho : ∀ b, s'.bufOut = some b → s.bufOut.map (·.gen) = some b.gen)
    (he : ∀ b, s'.bufErr = some b → s.bufErr.map (·.gen) = some b.gen)
    (hf : s'.flag = true → s'.bufOut.isSome = true ∧ s'.bufErr.isSome = true)
    (hn : s'.nextGen = s.nextGen) (hr : s'.raised = s.raised) : Inv s' := by
  refine ⟨hf, fun b hb => ?_, fun b hb => ?_, fun b c hb hc => ?_, hr.trans h.quiet⟩
  · obtain ⟨b0, h0, e⟩ := Option.map_eq_some_iff.1 (ho b hb)
    exact hn ▸ e ▸ h.genOut b0 h0
  · obtain ⟨b0, h0, e⟩ := Option.map_eq_some_iff.1 (he b hb)
    exact hn ▸ e ▸ h.genErr b0 h0
  · obtain ⟨b0, h0, e⟩ := Option.map_eq_some_iff.1 (ho b hb)
    obtain ⟨c0, h1, e'⟩ := Option.map_eq_some_iff.1 (he c hc)
    exact e ▸ e' ▸ h.distinct b0 c0 h0 h1

theorem Inv.same {s s' : St} (h : Inv s) (ho : s'.bufOut.map (·.gen) = s.bufOut.map (·.gen))
    (he : s'.bufErr.map (·.gen) = s.bufErr.map (·.gen)) (hf : s'.flag = s.flag)
    (hn : s'.nextGen = s.nextGen) (hr : s'.raised = s.raised) : Inv s' := by
  have some_iff {o o' : Option Buf} (e : o'.map (·.gen) = o.map (·.gen)) : o'.isSome = o.isSome := by
    simpa only [Option.isSome_map] using congrArg Option.isSome e
  exact h.shrink (fun _ hb => ho ▸ congrArg _ hb) (fun _ hb => he ▸ congrArg _ hb)
    (fun hf' => (h.flagBufs (hf ▸ hf')).imp ((some_iff ho).trans ·) ((some_iff he).trans ·)) hn hr

theorem setUp_true (s : St) : ∃ bo be n,
    setUp true s = { s with bufOut := some bo, bufErr := some be, out := .buf bo.gen, err := .buf be.gen,
                            flag := true, nextGen := n } ∧
    (Inv s → bo.gen < n ∧ be.gen < n ∧ bo.gen ≠ be.gen) := by
  unfold setUp
  cases ho : s.bufOut with
  | none =>
    cases he : s.bufErr with
    | none => exact ⟨_, _, _, rfl, fun _ => by simp only; omega⟩
    | some be => exact ⟨_, _, _, rfl, fun h => by have := h.genErr be he; simp only; omega⟩
  | some bo =>
    cases he : s.bufErr with
    | none => exact ⟨_, _, _, rfl, fun h => by have := h.genOut bo ho; simp only; omega⟩
    | some be =>
      exact ⟨_, _, _, rfl, fun h => ⟨h.genOut bo ho, h.genErr be he, h.distinct bo be ho he⟩⟩

theorem inv_step (buffer : Bool) (s : St) (op : Op) (h : Inv s) : Inv (step buffer s op) := by
  cases op with
  | setUp =>
    cases buffer with
    | false => exact h
    | true =>
      obtain ⟨bo, be, n, e, hg⟩ := setUp_true s
      obtain ⟨h1, h2, h3⟩ := hg h
      rw [step, e]
      exact ⟨fun _ => ⟨rfl, rfl⟩, fun _ hb => Option.some.inj hb ▸ h1, fun _ hb => Option.some.inj hb ▸ h2,
        fun _ _ hb hc => Option.some.inj hb ▸ Option.some.inj hc ▸ h3, h.quiet⟩
  | restore =>
    exact iteInduction (motive := fun p : St × _ => Inv p.1)
      (fun _ => h.shrink (take_gen _) (take_gen _) (fun hf => nomatch hf) rfl rfl) fun _ => h
  | skipReport =>
    refine iteInduction (motive := Inv) (fun hc => ?_) fun _ => h
    -- the capture is in force, so both streams are held and the branch that raises is not taken
    obtain ⟨ho, he⟩ := h.flagBufs (Bool.and_eq_true_iff.1 hc).2
    obtain ⟨bo, hbo⟩ := Option.isSome_iff_exists.1 ho
    obtain ⟨be, hbe⟩ := Option.isSome_iff_exists.1 he
    rw [hbo, hbe]
    exact h.same (by rw [hbo]) (by rw [hbe]) rfl rfl rfl
  | write w tok =>
    simp only [step]
    split
    · exact { h with }
    · exact h
    · exact h.same (writeBuf_gen ..) (writeBuf_gen ..) rfl rfl rfl
  | close w =>
    simp only [step]
    split
    · exact h.same (closeBuf_gen ..) (closeBuf_gen ..) rfl rfl rfl
    · exact h
  | install w r => cases w <;> exact { h with }

theorem inv_run (buffer : Bool) (ops : List Op) (s : St) (h : Inv s) : Inv (run buffer ops s) :=
  List.foldlRecOn ops (step buffer) h fun s h op _ => inv_step buffer s op h

/-- **No runner operation raises**, whatever the test does to the streams, in any order, any number of times. -/
theorem C13S_never_raises (buffer : Bool) (ops : List Op) : (run buffer ops).raised = false :=
  (inv_run buffer ops {} inv_init).quiet

/-- each standard stream is the original or the capture stream the result holds for it -/
def Tame (s : St) : Prop :=
  (s.out = .orig ∨ isHeld s.out s.bufOut = true) ∧ (s.err = .orig ∨ isHeld s.err s.bufErr = true)

def Clean (s : St) : Prop := s.out = .orig ∧ s.err = .orig

instance (s : St) : Decidable (Clean s) := by unfold Clean; infer_instance

/-- **A restore in a tame state leaves both standard streams the originals.** -/
theorem C13S_restore_clean (s : St) (h : Tame s) : Clean (restore true s).1 := by
  unfold restore
  split
  · exact ⟨rfl, rfl⟩
  · -- it does not act, so neither standard stream is a held capture stream
    rename_i hc
    exact ⟨h.1.resolve_right fun t => hc (by simp [restoreActs, t]),
      h.2.resolve_right fun t => hc (by simp [restoreActs, t])⟩

/-- ... and so does a restore that finds the capture in force, whatever the test installed meanwhile -/
theorem C13S_restore_clean_flag (s : St) (h : s.flag = true) : Clean (restore true s).1 := by
  unfold restore
  simp [restoreActs, h, Clean]

/-- the installs of a history are tame: the test only puts back the original stream or the capture stream the
result holds for that slot at that moment (what it found there) -/
def tameOps (buffer : Bool) : List Op → St → Bool
  | [], _ => true
  | .install w r :: ops, s =>
    (r == .orig || isHeld r (match w with | .out => s.bufOut | .err => s.bufErr)) &&
      tameOps buffer ops (step buffer s (.install w r))
  | op :: ops, s => tameOps buffer ops (step buffer s op)

theorem tame_step (buffer : Bool) (s : St) (op : Op) (ops : List Op) (h : Tame s)
    (ht : tameOps buffer (op :: ops) s = true) :
    Tame (step buffer s op) ∧ tameOps buffer ops (step buffer s op) = true := by
  cases op with
  | setUp =>
    refine ⟨?_, ht⟩
    cases buffer with
    | false => exact h
    | true => exact ⟨Or.inr (beq_self_eq_true _), Or.inr (beq_self_eq_true _)⟩
  | restore =>
    exact ⟨iteInduction (motive := fun p : St × _ => Tame p.1) (fun _ => ⟨Or.inl rfl, Or.inl rfl⟩)
      fun _ => h, ht⟩
  | skipReport =>
    refine ⟨iteInduction (motive := Tame) (fun _ => ?_) fun _ => h, ht⟩
    split
    · rename_i ho he
      simp only [Tame, isHeld, ho, he, beq_self_eq_true, or_true, and_self]
    · exact h
  | write w tok =>
    refine ⟨?_, ht⟩
    simp only [step]
    split
    · exact h
    · exact h
    · simpa only [Tame, isHeld_eq, writeBuf_gen] using h
  | close w =>
    refine ⟨?_, ht⟩
    simp only [step]
    split
    · simpa only [Tame, isHeld_eq, closeBuf_gen] using h
    · exact h
  | install w r =>
    obtain ⟨hr, ht'⟩ := Bool.and_eq_true_iff.1 ht
    rw [Bool.or_eq_true_iff, beq_iff_eq] at hr
    refine ⟨?_, ht'⟩
    cases w
    · exact ⟨hr, h.2⟩
    · exact ⟨h.1, hr⟩

theorem tame_run (buffer : Bool) (ops : List Op) (s : St) (h : Tame s) (ht : tameOps buffer ops s = true) :
    Tame (run buffer ops s) := by
  induction ops generalizing s with
  | nil => exact h
  | cons op ops ih =>
    obtain ⟨h', ht'⟩ := tame_step buffer s op ops h ht
    exact ih _ h' ht'

/-- **Between tests and after the run the standard streams are the original objects**: a history in which the
test code only puts back streams it found, followed by the restore every test ends with (`stopTest`), leaves
`sys.stdout` and `sys.stderr` the originals - whatever was written, closed or put back, in whatever order. -/
theorem C13S_between_tests (ops : List Op) (ht : tameOps true ops {} = true) :
    Clean (run true (ops ++ [.restore])) := by
  have h := tame_run true ops {} ⟨Or.inl rfl, Or.inl rfl⟩ ht
  simp only [run, List.foldl_append]
  exact C13S_restore_clean _ h

def Fresh : Option Buf → Prop
  | none => True
  | some b => b.closed = false ∧ b.content = []

theorem take_fresh (o : Option Buf) : Fresh (take o).1 := by
  cases o with
  | none => trivial
  | some b =>
    simp only [take]
    split
    · trivial
    · rename_i hc
      simp at hc
      exact ⟨hc, rfl⟩

/-- **After a restore that acts, the result holds only open and empty capture streams** (a closed one is
dropped; `_setUpStdStreams` makes a new one for the next test). -/
theorem C13S_drained (s : St) (h : restoreActs true s = true) :
    Fresh (restore true s).1.bufOut ∧ Fresh (restore true s).1.bufErr := by
  unfold restore
  simp only [h]
  exact ⟨take_fresh _, take_fresh _⟩

def contentOf : Option Buf → List Nat
  | some b => if b.closed then [] else b.content
  | none => []

theorem take_snd (o : Option Buf) : (take o).2 = contentOf o := by
  cases o with
  | none => rfl
  | some b =>
    simp only [take, contentOf]
    split <;> rfl

/-- **What the restore hands to the report is what the open capture streams held.** -/
theorem C13S_returns_content (s : St) :
    (restore true s).2 = if restoreActs true s then some (contentOf s.bufOut, contentOf s.bufErr) else none := by
  unfold restore
  split
  · exact congrArg some (congr (congrArg Prod.mk (take_snd _)) (take_snd _))
  · rfl

/-- a written token goes to exactly one place: the open capture stream that is the standard stream written to,
the original stream (shown at once), or nowhere (a stream of the test's own, a closed or stale stream) -/
theorem C13S_write (buffer : Bool) (s : St) (w : Which) (tok : Nat) :
    let s' := step buffer s (.write w tok)
    (s.sys w = .orig → s'.shown = s.shown ++ [tok] ∧ s'.bufOut = s.bufOut ∧ s'.bufErr = s.bufErr) ∧
    (s.sys w ≠ .orig → s'.shown = s.shown) := by
  simp only [step]
  constructor
  · intro h
    simp [h]
  · intro h
    split
    · rename_i e; exact absurd e h
    · rfl
    · rfl

/-- **Without `--buffer` the runner's operations never touch the standard streams.** -/
theorem C13S_no_buffer (s : St) (op : Op) (h : ∀ w r, op ≠ .install w r) :
    (step false s op).out = s.out ∧ (step false s op).err = s.err := by
  cases op with
  | setUp => exact ⟨rfl, rfl⟩
  | restore => exact ⟨rfl, rfl⟩
  | skipReport => exact ⟨rfl, rfl⟩
  | write w tok => simp only [step]; split <;> exact ⟨rfl, rfl⟩
  | close w => simp only [step]; split <;> exact ⟨rfl, rfl⟩
  | install w r => exact absurd rfl (h w r)

/-! The defects of the code before e2eb74d (`restoreV0`) and of e2eb74d alone (`restoreV1`), on concrete histories
(the first of them is the input on which the real code was observed to abort, D35). -/

def w35 : St := run true [.setUp, .close .out]
def w35b : St := run true [.setUp, .close .err, .restore, .install .out (.buf 0)]
def w35c : St := run true [.setUp, .close .out, .restore, .install .err (.buf 1)]

/-- D35: with the code before e2eb74d a test that closes the stream it finds as `sys.stdout` makes the next
`_restoreStdStreams` raise - and the capture streams stay installed. -/
theorem C13S_D35_witness :
    (restoreV0 true w35).raised = true ∧ (restoreV0 true w35).out ≠ .orig ∧ (restore true w35).1.raised = false ∧
      Clean (restore true w35).1 := by
  decide

/-- D35b: with e2eb74d alone, a test that closes `sys.stderr`, produces a first result event and then puts the
`sys.stdout` it saved back makes the second `_restoreStdStreams` dereference the dropped attribute. -/
theorem C13S_D35b_witness :
    (restoreV1 true w35b).raised = true ∧ (restore true w35b).1.raised = false ∧ Clean (restore true w35b).1 := by
  decide

/-- D35c: with e2eb74d alone, the mirror image (closes `sys.stdout`, puts the saved `sys.stderr` back) leaves
`sys.stderr` the capture stream after the test. -/
theorem C13S_D35c_witness :
    (restoreV1 true w35c).err = .buf 1 ∧ Clean (restore true w35c).1 := by
  decide

def wOps : List Op := [.setUp, .write .out 1, .close .err, .restore, .install .out (.buf 0), .write .out 2,
  .skipReport, .write .err 3]

/-- non-vacuity: a tame history with every kind of operation, ending in a tame state that is not clean before
the closing restore -/
example : tameOps true wOps {} = true ∧ ¬ Clean (run true wOps) ∧ Clean (run true (wOps ++ [.restore])) := by
  decide

end Ztr.Streams
