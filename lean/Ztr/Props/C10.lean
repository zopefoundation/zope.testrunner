import Ztr.Lemmas.Layers
/-! # C10 — layer run order: deterministic, unit tests first, bases first, once each -/
namespace Ztr.Layers

/-- **C10_once** — each requested layer occurs exactly once, nothing else occurs. -/
theorem C10_once (G : Graph) (ls : List Nat) :
    (orderByBases G ls).Nodup ∧ ∀ x, x ∈ orderByBases G ls ↔ x ∈ ls := by
  unfold orderByBases
  refine ⟨(dedupAux_loop.nodup _ _).sublist List.filter_sublist, fun x => ?_⟩
  simp only [List.mem_filter, mem_dedupFirst, List.mem_reverse, List.mem_flatMap, decide_eq_true_eq,
    PySort.mem_isort]
  exact ⟨fun h => h.2, fun h => ⟨⟨x, h, self_mem_gather G x⟩, h⟩⟩

/-- **C10_bases_first** — a layer never comes before one of its own (transitive) base layers that
is also requested: `[b, l]` is a sublist of the (duplicate-free) result. -/
theorem C10_bases_first {G : Graph} (hwf : WF G) (ls : List Nat) {l b : Nat}
    (hb : b ∈ closure G l) (hne : b ≠ l) (hbl : b ∈ ls) (hl : l ∈ ls) :
    [b, l].Sublist (orderByBases G ls) := by
  have hs := fun x (hx : x ∈ ls) => decide_eq_true ((PySort.mem_isort (leDesc G) ls x).2 hx)
  have h := (pair_sublist_dedupFirst_reverse hne (followed_flatMap fun x _ => followed_gather hwf hb hne x)
    (List.mem_flatMap.2 ⟨l, of_decide_eq_true (hs l hl), self_mem_gather G l⟩)).filter
      (fun l => decide (l ∈ PySort.isort (leDesc G) ls))
  unfold orderByBases
  simpa only [List.filter_cons, hs b hbl, hs l hl, if_true, List.filter_nil] using h

/-- **C10_perm_invariant** — the order is a function of the *set* of requested layers: any
permutation of the input (discovery order, option order, dict order, hash seed) gives the same list. -/
theorem C10_perm_invariant {G : Graph} (hg : Good G) {ls ls' : List Nat} (h : ls.Perm ls') :
    orderByBases G ls = orderByBases G ls' := by
  unfold orderByBases
  rw [PySort.isort_perm_eq (leDesc_byKey G) h fun _ _ _ _ => sortKey_inj hg]

/-- **C10_unit_first** — if the unit-test layer is requested, it runs first. -/
theorem C10_unit_first {G : Graph} (hg : Good G) (ls : List Nat) (hu : G.unit ∈ ls) :
    (orderByBases G ls).head? = some G.unit := by
  have hs : G.unit ∈ PySort.isort (leDesc G) ls := (PySort.mem_isort _ _ _).2 hu
  -- the key of the unit layer is the smallest and only its own, so the descending sort puts it last;
  -- it has no bases, so the reversed gathered list starts with it
  obtain ⟨init, z, hz⟩ : ∃ init z, PySort.isort (leDesc G) ls = init ++ [z] :=
    ⟨_, _, (List.dropLast_concat_getLast (List.ne_nil_of_mem hs)).symm⟩
  have hpw := PySort.isort_pairwise (leDesc_byKey G) ls
  rw [hz] at hpw hs
  have hzu : z = G.unit := by
    rcases List.mem_append.1 hs with h | h
    · have := (List.pairwise_append.1 hpw).2.2 _ h z List.mem_cons_self
      rw [leDesc, sortKey_unit hg, decide_eq_true_eq, List.le_nil] at this
      exact sortKey_eq_nil this
    · exact (List.mem_singleton.1 h).symm
  have hgu : gather G G.unit = [G.unit] := by rw [gather_eq hg.wf, hg.unitRoot, List.flatMap_nil]
  simp [orderByBases, hz, hzu, hgu, dedupFirst, dedupAux]

/-- The guard of `C10_perm_invariant` is needed: two distinct layers with the same dotted name are
ordered by input position. -/
theorem C10_same_name_witness :
    ∃ (G : Graph) (ls ls' : List Nat), ls.Perm ls' ∧ WF G ∧ orderByBases G ls ≠ orderByBases G ls' :=
  ⟨{ bases := fun _ => [], name := fun _ => [97], unit := 0 }, [1, 2], [2, 1],
    by decide, by intro l b hb; simp at hb, by decide⟩

-- non-vacuity: a diamond with a unit layer satisfies `Good`; all layer kinds occur in the result
def exG : Graph :=
  { bases := fun l => match l with | 2 => [1] | 3 => [1] | 4 => [2, 3] | _ => [],
    name := fun l => [l], unit := 0 }
example : Good exG where
  wf := by
    intro l b hb
    unfold exG at hb
    simp only at hb
    split at hb <;> simp at hb <;> omega
  nameInj := by intro a b h; simpa [exG] using h
  unitRoot := rfl
example : orderByBases exG [4, 0, 3] = [0, 3, 4] := by decide

theorem orderByBases_singleton (G : Graph) (l : Nat) : orderByBases G [l] = [l] :=
  List.perm_singleton.1
    ((List.perm_ext_iff_of_nodup (C10_once G [l]).1 (List.pairwise_singleton _ l)).2 (C10_once G [l]).2)

theorem orderByBases_nil (G : Graph) : orderByBases G [] = [] := by
  apply List.eq_nil_iff_forall_not_mem.2
  intro x hx
  have := ((C10_once G []).2 x).1 hx
  simp at this

end Ztr.Layers
