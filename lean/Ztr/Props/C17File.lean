import Ztr.Model.XmlFile
/-! # C17 — report file names: one file per suite, inside the reports directory -/
namespace Ztr.XmlFile

theorem encChar_no_slash (c : Nat) : slash ∉ encChar c := by
  unfold encChar
  split
  · simp [slash]
  · split
    · simp [slash]
    · rename_i h1 h2
      simp only [List.mem_singleton]
      exact fun e => h2 e.symm

/-- **C17F_no_separator** — a report file name contains no path separator: the file lies in the reports directory,
whatever the suite (a doctest named through `__test__`) is called.  The code before 2d5a04c failed at `open()`
for a suite name with a separator in it (D43). -/
theorem C17F_no_separator (name : Str) : slash ∉ stem name := fun h =>
  let ⟨c, _, hc⟩ := List.mem_flatMap.1 h
  encChar_no_slash c hc

theorem decode_cons_ne (c : Nat) (rest : Str) (h : c ≠ 37) : decode (c :: rest) = c :: decode rest := by
  -- the last equation of `decode`: `c :: rest` begins neither `%25` nor `%2F`, since `c` is not `%`
  rw [decode.eq_3 c rest (fun _ hc _ => h hc) (fun _ hc _ => h hc)]

theorem decode_encChar_append (c : Nat) (rest : Str) :
    decode (encChar c ++ rest) = c :: decode rest := by
  unfold encChar
  by_cases h1 : c = pct
  · subst h1; simp [decode, pct]
  · by_cases h2 : c = slash
    · subst h2; simp [decode, pct, slash]
    · simp only [h1, h2, if_false, List.singleton_append]
      exact decode_cons_ne c rest h1

/-- **C17F_decode** — the suite name can be read back from the file name -/
theorem C17F_decode (name : Str) : decode (stem name) = name := by
  induction name with
  | nil => simp [stem, decode]
  | cons c rest ih =>
    have : stem (c :: rest) = encChar c ++ stem rest := by simp [stem]
    rw [this, decode_encChar_append c (stem rest), ih]

/-- **C17F_injective** — different suites, different files: no report overwrites another one ("every test that
passed appears exactly once") -/
theorem C17F_injective (a b : Str) (h : stem a = stem b) : a = b := by
  rw [← C17F_decode a, h, C17F_decode]

/-- a scheme that writes the separator as `%2F` but leaves `%` alone merges two suites -/
theorem C17F_naive_collides :
    let naive : Str → Str := fun n => n.flatMap (fun c => if c = slash then [37, 50, 70] else [c])
    naive [97, 47, 98] = naive [97, 37, 50, 70, 98] ∧ stem [97, 47, 98] ≠ stem [97, 37, 50, 70, 98] := by
  decide

example : stem [97, 47, 98, 37] = [97, 37, 50, 70, 98, 37, 50, 53] := by decide

end Ztr.XmlFile
