import Ztr.Lemmas.Channel
/-! # C07 — subprocess result channel: nothing lost, nothing partial trusted -/
namespace Ztr.Channel

theorem parse_noHeader (pre : List Bytes) (r : Bytes) (hpre0 : ∀ l ∈ pre, 10 ∉ l) (hr : 10 ∉ r)
    (hpre : ∀ l ∈ pre, parseHeader l = none) : parse (joinLines pre ++ r) = parseTail r := by
  rw [parse, splitLines_joinLines pre r hpre0 hr, findHeader_none pre hpre]

theorem parse_report (pre rest : List Bytes) (r : Bytes) (ran nf ne : Nat)
    (hpre0 : ∀ l ∈ pre, 10 ∉ l) (hpre : ∀ l ∈ pre, parseHeader l = none)
    (hrest : ∀ l ∈ rest, 10 ∉ l) (hr : 10 ∉ r) :
    parse (joinLines pre ++ joinLines (headerLine ran nf ne :: rest) ++ r) =
      if rest.length < nf + ne then .commError
      else .ok (Int.ofNat ran) ((rest.take nf).map strip) (((rest.drop nf).take ne).map strip) := by
  have hfh : findHeader (pre ++ headerLine ran nf ne :: rest) =
      some ((Int.ofNat ran, Int.ofNat nf, Int.ofNat ne), rest) := by
    rw [findHeader_skip pre _ hpre, findHeader, parseHeader_headerLine]
  rw [← joinLines_append, parse, splitLines_joinLines _ r
    (List.forall_mem_append.2 ⟨hpre0, List.forall_mem_cons.2 ⟨headerLine_noNl ran nf ne, hrest⟩⟩) hr]
  simp only [hfh, parseLines, decodeNames]
  rfl

/-- **C07_roundtrip** — for every volume and content of newline-terminated stderr noise before the
report in which no line parses as three Python ints (`hpre`), every noise after it (any bytes,
terminated or not), any number of names of any spelling (clean = squashed by the child: no '\n',
no surrounding ASCII whitespace, valid UTF-8): the parent records exactly the child's number of
tests and exactly its failed and errored names. -/
theorem C07_roundtrip (pre post : List Bytes) (tail : Bytes) (ran : Nat) (fails errs : List Bytes)
    (hpre0 : ∀ l ∈ pre, 10 ∉ l) (hpost0 : ∀ l ∈ post, 10 ∉ l) (htail : 10 ∉ tail)
    (hpre : ∀ l ∈ pre, parseHeader l = none)
    (hf : ∀ n ∈ fails, Clean n) (he : ∀ n ∈ errs, Clean n) :
    parse (joinLines pre ++ encodeReport ran fails errs ++ joinLines post ++ tail)
      = .ok (Int.ofNat ran) fails errs := by
  have e : joinLines pre ++ encodeReport ran fails errs ++ joinLines post =
      joinLines pre ++ joinLines (headerLine ran fails.length errs.length :: (fails ++ (errs ++ post))) := by
    rw [encodeReport, List.append_assoc, ← joinLines_append, List.cons_append, List.append_assoc]
  have hnl : ∀ l ∈ fails ++ (errs ++ post), 10 ∉ l :=
    List.forall_mem_append.2 ⟨fun l hl => (hf l hl).1, List.forall_mem_append.2 ⟨fun l hl => (he l hl).1, hpost0⟩⟩
  rw [e, parse_report pre _ tail ran _ _ hpre0 hpre hnl htail, if_neg (by simp only [List.length_append]; omega),
    List.take_left, List.drop_left, List.take_left, map_strip_clean hf, map_strip_clean he]

/-- **C07_noise_after** — the result does not depend on what follows the report. -/
theorem C07_noise_after (pre post post' : List Bytes) (tail tail' : Bytes) (ran : Nat) (fails errs : List Bytes)
    (hpre0 : ∀ l ∈ pre, 10 ∉ l) (hpost0 : ∀ l ∈ post, 10 ∉ l) (hpost0' : ∀ l ∈ post', 10 ∉ l)
    (htail : 10 ∉ tail) (htail' : 10 ∉ tail')
    (hpre : ∀ l ∈ pre, parseHeader l = none)
    (hf : ∀ n ∈ fails, Clean n) (he : ∀ n ∈ errs, Clean n) :
    parse (joinLines pre ++ encodeReport ran fails errs ++ joinLines post ++ tail)
      = parse (joinLines pre ++ encodeReport ran fails errs ++ joinLines post' ++ tail') := by
  rw [C07_roundtrip pre post tail ran fails errs hpre0 hpost0 htail hpre hf he,
    C07_roundtrip pre post' tail' ran fails errs hpre0 hpost0' htail' hpre hf he]

/-- **C07_truncation** — a report cut at *any* byte offset (every strict prefix `p`), after any
non-spoofing noise, is never used partially: the parent reports a communication error (and records an
error for the layer) or — only possible when the cut removed nothing but the final newline of a
report that lists no names — records exactly the child's complete data.  Never an exception
(`C07_never_crash`), never a name list from a cut report, never a wrong number. -/
theorem C07_truncation (pre : List Bytes) (ran : Nat) (fails errs : List Bytes) (p s : Bytes)
    (hpre0 : ∀ l ∈ pre, 10 ∉ l) (hpre : ∀ l ∈ pre, parseHeader l = none)
    (hf : ∀ n ∈ fails, 10 ∉ n) (he : ∀ n ∈ errs, 10 ∉ n)
    (hs : s ≠ []) (hp : p ++ s = encodeReport ran fails errs) :
    parse (joinLines pre ++ p) = .commError ∨
      (fails = [] ∧ errs = [] ∧ parse (joinLines pre ++ p) = .ok (Int.ofNat ran) [] []) := by
  -- `p` is the complete lines `a` of the report and a part `r` of its next line `r ++ t`
  obtain ⟨a, b, r, t, hL, rfl⟩ := strictPrefix_joinLines _ p s hs hp
  cases a with
  | nil =>
    -- the cut is in the header line: there is no complete header, the rest `r` is tried
    obtain ⟨hh, -⟩ := List.cons.inj hL
    have hr : 10 ∉ r := fun h10 => headerLine_noNl ran fails.length errs.length (hh ▸ List.mem_append_left t h10)
    rw [show joinLines [] ++ r = r from rfl, parse_noHeader pre r hpre0 hr hpre, parseTail]
    split
    · rename_i x y z hph
      split
      · rename_i h0
        obtain ⟨rfl, hnf, hne⟩ := parseHeader_prefix_zero ran fails.length errs.length r t hh.symm x y z hph h0
        exact Or.inr ⟨List.eq_nil_of_length_eq_zero hnf, List.eq_nil_of_length_eq_zero hne, rfl⟩
      · exact Or.inl rfl
    · exact Or.inl rfl
  | cons l a =>
    -- the header line is complete, but fewer names than it announces
    rw [List.cons_append, List.cons.injEq] at hL
    obtain ⟨rfl, hN⟩ := hL
    have hlen := congrArg List.length hN
    rw [List.length_append, List.length_append, List.length_cons] at hlen
    have hmem : ∀ l ∈ a ++ (r ++ t) :: b, 10 ∉ l := hN ▸ List.forall_mem_append.2 ⟨hf, he⟩
    have hr : 10 ∉ r := fun h10 =>
      hmem (r ++ t) (List.mem_append_right a List.mem_cons_self) (List.mem_append_left t h10)
    rw [← List.append_assoc, parse_report pre a r ran _ _ hpre0 hpre
      (fun l hl => hmem l (List.mem_append_left _ hl)) hr, if_pos (by omega)]
    exact Or.inl rfl

/-- **C07_never_crash** — for *every* byte string on the child's stderr (and a failed spawn) the
reader thread ends normally: it records a report or a communication error, never dies with an
exception that would leave the layer unrecorded. -/
theorem C07_never_crash (spawnFailed : Bool) (stderr : Bytes) : parentOutcome spawnFailed stderr ≠ .crash := by
  -- `decodeNames` cannot fail, so no branch of the parser ends in `.crash`
  have hlines : ∀ ls, parseLines ls ≠ .crash := by
    intro ls
    unfold parseLines
    split
    · exact nofun
    · simp only [decodeNames]
      split <;> exact nofun
  have htail : ∀ t, parseTail t ≠ .crash := by
    intro t
    unfold parseTail
    split
    · split <;> exact nofun
    · exact nofun
  unfold parentOutcome
  split
  · exact nofun
  · unfold parse
    split
    · exact hlines _
    · exact htail _

/-- **C07_spawn_failure** — a child that cannot be started yields an error for the layer, whatever
else is known. -/
theorem C07_spawn_failure (stderr : Bytes) : parentOutcome true stderr = .commError := rfl

/-- only noise (no line parses as a header): an error is recorded -/
theorem C07_no_report (pre : List Bytes) (tail : Bytes) (hpre0 : ∀ l ∈ pre, 10 ∉ l) (htail : 10 ∉ tail)
    (hpre : ∀ l ∈ pre, parseHeader l = none) (htl : parseHeader tail = none) :
    parse (joinLines pre ++ tail) = .commError := by
  rw [parse_noHeader pre tail hpre0 htail hpre, parseTail, htl]

/-- D10 (known finding): the guard `hpre` of `C07_roundtrip` is needed — a noise line of three ints
before the report is taken as the header and the real failure is lost. -/
theorem C07_spoof_witness :
    parse (joinLines [[49, 32, 48, 32, 48]] ++ encodeReport 3 [[102]] []) = .ok 1 [] [] := by decide

-- non-vacuity: noise, a unicode name and a name with an interior space meet every hypothesis
example : parse (joinLines [[119, 97, 114, 110]] ++ encodeReport 3 [[97, 32, 98]] [[195, 169]] ++ [120])
    = .ok 3 [[97, 32, 98]] [[195, 169]] := by decide
example : Clean [97, 32, 98] ∧ Clean [195, 169] := by unfold Clean; decide

-- the unterminated header without names is accepted, one that announces names is not
example : parse [51, 32, 48, 32, 48] = .ok 3 [] [] := by decide
example : parse [51, 32, 49, 32, 48] = .commError := by decide
example : parse ([51, 32, 49, 32, 48, 10] ++ [102]) = .commError := by decide

end Ztr.Channel
