import Ztr.Props.C20
/-! # C20, stage B — the frame structure of the visit stack and termination

`visits` is a stack of *frames*, one per ancestor: the pending neighbour visits of that ancestor
followed by the return marker.  -/
namespace Ztr.Digraph

inductive Frames (nbrs : Nat → List Nat) : List Nat → List (Option Nat) → Prop
  | nil : Frames nbrs [] []
  | cons {a : Nat} {A : List Nat} {P : List Nat} {V : List (Option Nat)} :
      (∀ m ∈ P, m ∈ nbrs a) → Frames nbrs A V → Frames nbrs (a :: A) (P.map some ++ none :: V)

theorem Frames.nil_iff {nbrs : Nat → List Nat} {A : List Nat} {V : List (Option Nat)} (h : Frames nbrs A V) :
    A = [] ↔ V = [] := by
  cases h <;> simp

theorem Frames.pop {nbrs : Nat → List Nat} {a : Nat} {A : List Nat} {vs : List (Option Nat)}
    (h : Frames nbrs (a :: A) (none :: vs)) : Frames nbrs A vs := by
  generalize hv : none :: vs = V at h
  cases h with
  | @cons _ _ P _ _ hF =>
    cases P with
    | nil => cases hv; exact hF
    | cons p P' => cases hv

theorem Frames.drop {nbrs : Nat → List Nat} {A : List Nat} {m : Nat} {vs : List (Option Nat)}
    (h : Frames nbrs A (some m :: vs)) : Frames nbrs A vs ∧ ∀ a, A.head? = some a → m ∈ nbrs a := by
  generalize hv : some m :: vs = V at h
  cases h with
  | nil => cases hv
  | @cons a _ P _ hP hF =>
    cases P with
    | nil => cases hv
    | cons p P' =>
      cases hv
      exact ⟨.cons (fun x hx => hP x (List.mem_cons_of_mem _ hx)) hF, fun _ e => Option.some.inj e ▸ hP m List.mem_cons_self⟩

/-- well-formedness of the visit stack: frames, or a freshly picked root that is still unvisited -/
def WF (nbrs : Nat → List Nat) (s : St) : Prop :=
  Frames nbrs s.ancestors s.visits ∨ (s.ancestors = [] ∧ ∃ m, s.visits = [some m] ∧ s.num m = none)

theorem WF.frames {nbrs : Nat → List Nat} {s : St} (h : WF nbrs s) (hne : ∀ m, s.visits = [some m] → s.num m ≠ none) :
    Frames nbrs s.ancestors s.visits :=
  h.elim id fun ⟨_, m, hm, hn⟩ => absurd hn (hne m hm)

theorem WF.drop {nbrs : Nat → List Nat} {s : St} (h : WF nbrs s) {node : Nat} {vs : List (Option Nat)}
    (hv : s.visits = some node :: vs) : Frames nbrs s.ancestors vs := by
  rcases h with hF | ⟨hA, m, hm, _⟩
  · exact (hv ▸ hF).drop.1
  · cases hv.symm.trans hm
    exact hA ▸ .nil

theorem wf_step {order : List Nat} {nbrs : Nat → List Nat} {s s' : St}
    (hi : Inv order s) (h : WF nbrs s) (hs : Step nbrs s (some s')) : WF nbrs s' := by
  cases hs with
  | @pick n _ hv hu =>
    have hn : n ∈ s.unvisited := hu ▸ List.mem_cons_self
    exact Or.inr ⟨(h.frames (by simp [hv])).nil_iff.2 hv, n, rfl,
      (hi.unv n (hi.perm.subset (by simp [hn]))).2 hn⟩
  | root hv ha _ _ | nonroot hv ha _ =>
    rw [foldIntoParent_eq]
    exact Or.inl (Frames.pop (ha ▸ hv ▸ h.frames (by simp [hv])))
  | skip hv _ _ | skipOrphan hv _ _ _ => exact Or.inl (h.drop hv)
  | skipLow hv _ _ _ =>
    rw [lowerLow_eq]
    exact Or.inl (h.drop hv)
  | expand hv _ => exact Or.inl (.cons (fun _ hm => List.mem_reverse.1 hm) (h.drop hv))

def nbrSum (nbrs : Nat → List Nat) (l : List Nat) : Nat := (l.map (fun n => (nbrs n).length)).sum

def vWeight : List (Option Nat) → Nat
  | [] => 0
  | none :: r => 3 + vWeight r
  | some _ :: r => 1 + vWeight r

/-- an upper bound on the number of steps still to come -/
def potential (nbrs : Nat → List Nat) (s : St) : Nat :=
  3 * s.unvisited.length + nbrSum nbrs s.unvisited + vWeight s.visits +
    (if s.visits = [] then 2 else 0)

theorem vWeight_append (a b : List (Option Nat)) : vWeight (a ++ b) = vWeight a + vWeight b := by
  induction a with
  | nil => simp [vWeight]
  | cons x r ih => cases x <;> simp [vWeight, ih] <;> omega

theorem vWeight_somes (l : List Nat) : vWeight (l.map some) = l.length := by
  induction l with
  | nil => rfl
  | cons x r ih => simp [vWeight, ih]; omega

theorem potential_pop (nbrs : Nat → List Nat) {s x : St} {v : Option Nat} {vs : List (Option Nat)}
    (hv : s.visits = v :: vs) (hne : v = none ∨ vs ≠ []) (hu : x.unvisited = s.unvisited) (hx : x.visits = vs) :
    potential nbrs x < potential nbrs s := by
  unfold potential
  rw [hu, hx, hv]
  rcases hne with rfl | hne
  · simp only [vWeight]
    split <;> simp <;> omega
  · cases v <;> simp [vWeight, hne]

theorem potential_step {order : List Nat} {nbrs : Nat → List Nat} {s s' : St}
    (hi : Inv order s) (h : WF nbrs s) (hs : Step nbrs s (some s')) :
    potential nbrs s' < potential nbrs s := by
  -- a visit of a numbered node is not the pick of a root: its frame's marker is still below it
  have hskip : ∀ {node d vs}, s.visits = some node :: vs → s.num node = some d → vs ≠ [] := by
    intro node d vs hv hnum
    have hF := hv ▸ h.frames (by rw [hv]; rintro m ⟨⟩; simp [hnum])
    have hA : s.ancestors ≠ [] := mt hF.nil_iff.1 (List.cons_ne_nil _ _)
    exact mt hF.drop.1.nil_iff.2 hA
  cases hs with
  | pick hv hu => simp [potential, hv, hu, vWeight]
  | root hv _ _ _ | nonroot hv _ _ =>
    rw [foldIntoParent_eq]
    exact potential_pop nbrs hv (Or.inl rfl) rfl rfl
  | skip hv hnum _ | skipOrphan hv hnum _ _ => exact potential_pop nbrs hv (Or.inr (hskip hv hnum)) rfl rfl
  | skipLow hv hnum _ _ =>
    rw [lowerLow_eq]
    exact potential_pop nbrs hv (Or.inr (hskip hv hnum)) rfl rfl
  | @expand node vs hv hnum =>
    have hmem : node ∈ s.unvisited := (hi.unv node (hi.vis node (hv ▸ List.mem_cons_self))).1 hnum
    have hpos := List.length_pos_of_mem hmem
    have hsum : nbrSum nbrs s.unvisited = (nbrs node).length + nbrSum nbrs (s.unvisited.erase node) :=
      ((List.perm_cons_erase hmem).map _).sum_nat
    unfold potential expand
    simp only [hv, vWeight_append, vWeight_somes, vWeight, List.length_reverse, hsum, List.length_erase_of_mem hmem]
    simp
    omega

theorem run_halts {order : List Nat} {nbrs : Nat → List Nat} (hnd : order.Nodup)
    (hclosed : ∀ n, ∀ m ∈ nbrs n, m ∈ order) :
    ∀ (fuel : Nat) (s : St), Inv order s → WF nbrs s → potential nbrs s < fuel →
      (run true nbrs fuel s).2 = true
  | 0, _, _, _, h => by omega
  | f + 1, s, hi, hw, h => by
    unfold run
    cases hs : step true nbrs s with
    | none => rfl
    | some s' =>
      have hst := hs ▸ step_spec nbrs s
      have hp := potential_step hi hw hst
      exact run_halts hnd hclosed f s' (inv_step hnd hclosed hi hs) (wf_step hi hw hst) (by omega)

/-- **C20_halts** — for every graph and every iteration order the generator is exhausted within
`fuelFor` steps (`sccs` returns `true` as its second component). -/
theorem C20_halts (order : List Nat) (nbrs : Nat → List Nat) (hnd : order.Nodup)
    (hclosed : ∀ n, ∀ m ∈ nbrs n, m ∈ order) : (sccs true order nbrs (fuelFor order nbrs)).2 = true :=
  run_halts hnd hclosed _ _ (inv_init order) (Or.inl Frames.nil) (by
    unfold potential init fuelFor nbrSum
    exact Nat.lt_succ_self _)

end Ztr.Digraph
