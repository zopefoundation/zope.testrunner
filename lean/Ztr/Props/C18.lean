import Ztr.Model.Bracket
/-! # C18 — interpreter-global state changed for a run is restored afterwards

`run` is four loops over the feature list.  `run_cons` regroups them into nested brackets, one per
feature; a single bracket nets to the feature's early tear-down (`bracket_eq`), which is the identity
on a state that meets the feature's guard. -/
namespace Ztr.Bracket

/-- the shape facts of `Runner.run`, extracted from the source on every run -/
theorem C18_reverse_order :
    Facts.setupForward = true ∧ Facts.lateForward = true ∧ Facts.teardownInFinally = true ∧
    Facts.earlyReversed = true ∧ Facts.globalReversed = true ∧ Facts.earlyBeforeGlobal = true := by decide

theorem run_nil {body : G → G} (hb : BodyOk body) (g : G) : run [] body g = g :=
  (congrArg (fun h : G => { h with warn := g.warn }) (hb g)).trans rfl

/-- early tear-downs touch the tracer cells and the profiler, global tear-downs the gc and traceback
cells -/
theorem early_global (f f' : Feat) (sv : Saved) (g : G) :
    earlyTeardown f (globalTeardown f' sv g) = globalTeardown f' sv (earlyTeardown f g) := by
  cases f
  case coverage => cases f' <;> rfl
  case profiling => cases f' <;> rfl
  all_goals rfl

/-- no global set-up reads or writes the profiler cell, the only one a late set-up touches -/
theorem setupAll_late (f : Feat) (fs : List Feat) (g : G) :
    setupAll fs (lateSetup f g) = (lateSetup f (setupAll fs g).1, (setupAll fs g).2) := by
  cases f
  case profiling p =>
    induction fs generalizing g with
    | nil => rfl
    | cons f' fs ih =>
      have h : globalSetup f' (lateSetup (.profiling p) g) =
          (lateSetup (.profiling p) (globalSetup f' g).1, (globalSetup f' g).2) := by
        cases f' <;> rfl
      simp only [setupAll, h, ih]
  all_goals rfl

theorem warn_bracket (f : Feat) (sv : Saved) (g : G) (w : Nat) :
    { globalTeardown f sv (earlyTeardown f g) with warn := w } =
      globalTeardown f sv (earlyTeardown f { g with warn := w }) := by
  cases f <;> rfl

theorem warn_setup (f : Feat) (g : G) : (lateSetup f (globalSetup f g).1).warn = g.warn := by
  cases f <;> rfl

theorem run_cons (f : Feat) (fs : List Feat) (body : G → G) (g : G) :
    run (f :: fs) body g =
      globalTeardown f (globalSetup f g).2
        (earlyTeardown f (run fs body (lateSetup f (globalSetup f g).1))) := by
  simp only [run, setupAll, List.foldl_cons, List.reverse_cons, List.foldl_append, List.foldl_nil,
    setupAll_late, warn_setup, ← warn_bracket]
  -- `f`'s early tear-down stands before the global tear-downs of `fs`; they touch other cells, so it moves behind them
  rw [List.foldl_hom (earlyTeardown f) (H := fun g p => (early_global f p.1 p.2 g).symm)]

theorem bracket_eq (f : Feat) (g : G) :
    globalTeardown f (globalSetup f g).2 (earlyTeardown f (lateSetup f (globalSetup f g).1)) =
      earlyTeardown f g := by
  cases f <;> rfl

theorem restored_cons (f : Feat) {fs : List Feat} {body : G → G} {g : G} (hf : earlyTeardown f g = g)
    (hfs : run fs body (lateSetup f (globalSetup f g).1) = lateSetup f (globalSetup f g).1) :
    run (f :: fs) body g = g := by
  rw [run_cons, hfs, bracket_eq, hf]

theorem restored_opt (c : Bool) (f : Feat) {fs : List Feat} {body : G → G} {g : G}
    (hf : c = true → earlyTeardown f g = g) (h0 : run fs body g = g)
    (h1 : run fs body (lateSetup f (globalSetup f g).1) = lateSetup f (globalSetup f g).1) :
    run ((if c then [f] else []) ++ fs) body g = g := by
  cases c
  · exact h0
  · exact restored_cons f (hf rfl) h1

/-- every subset of the options, i.e. every sub-list of the canonical feature list -/
theorem C18_restored (cov prof thrOn dbgOn : Bool) (tr p thr dbg fmt prt : Nat) (body : G → G)
    (hb : BodyOk body) (g : G)
    (hg1 : cov = true → g.trace = 0 ∧ g.thrTrace = 0 ∧ g.setTrace = osettrace)
    (hg2 : prof = true → g.profile = 0) :
    run ((if cov then [Feat.coverage tr] else []) ++ (if prof then [.profiling p] else []) ++
         (if thrOn then [.threshold thr] else []) ++ (if dbgOn then [.debug dbg] else []) ++
         [.other, .traceback fmt prt]) body g = g := by
  -- from the innermost feature outwards; each tail restores every state that meets its guards
  have tb := fun x : G => restored_cons .other (g := x) rfl (restored_cons (.traceback fmt prt) rfl (run_nil hb _))
  have hdbg := fun x => restored_opt dbgOn (.debug dbg) (fun _ => rfl) (tb x) (tb _)
  have hthr := fun x => restored_opt thrOn (.threshold thr) (fun _ => rfl) (hdbg x) (hdbg _)
  have hprof := fun x (hx : prof = true → x.profile = 0) =>
    restored_opt prof (.profiling p) (fun h => (congrArg (fun v => { x with profile := v }) (hx h)).symm) (hthr x) (hthr _)
  simp only [List.append_assoc]
  refine restored_opt cov (.coverage tr) (fun h => ?_) (hprof g hg2) (hprof _ hg2)
  obtain ⟨h1, h2, h3⟩ := hg1 h
  cases g
  subst h1 h2 h3
  rfl

/-- **C18_restored** (canonical configuration) — with every state-changing feature active, in the
order of `Runner.configure`, for every initial state satisfying the guards, every option value, and
every test phase that only touches the warning filters (normal end, failing tests, stop-on-error,
exception from a per-test hook, KeyboardInterrupt: the `finally` makes the tear-downs unconditional):
the global state after the run is the state before it. -/
theorem C18_restored_all (tr p thr dbg fmt prt : Nat) (body : G → G) (hb : BodyOk body) (g : G)
    (hg : g.trace = 0 ∧ g.thrTrace = 0 ∧ g.setTrace = osettrace ∧ g.profile = 0) :
    run [.coverage tr, .profiling p, .threshold thr, .debug dbg, .other, .traceback fmt prt] body g = g :=
  C18_restored true true true true tr p thr dbg fmt prt body hb g
    (fun _ => ⟨hg.1, hg.2.1, hg.2.2.1⟩) (fun _ => hg.2.2.2)

/-- D21 (known finding): the guard is needed — a trace function installed before an in-process
`--coverage` run is gone afterwards. -/
theorem C18_D21_witness :
    let g : G := ⟨1, 0, 3, 4, 77, 0, osettrace, 0, 9, 10, 11⟩
    (run [.coverage 5, .other, .traceback 6 7] id g).trace = 0 ∧ g.trace = 77 := by decide

-- non-vacuity: a state meeting the guards, all options on
example : run [.coverage 5, .profiling 6, .threshold 700, .debug 32, .other, .traceback 8 9] id
    ⟨1, 0, 3, 4, 0, 0, osettrace, 0, 9, 10, 11⟩ = ⟨1, 0, 3, 4, 0, 0, osettrace, 0, 9, 10, 11⟩ := by decide

end Ztr.Bracket
