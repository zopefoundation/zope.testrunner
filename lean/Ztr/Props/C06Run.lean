import Ztr.Props.C03Run
import Ztr.Props.C04
/-! # C06, first sentence — what the tests of a layer do does not depend on the process that runs them

`-j N` moves the layers into subprocesses; a sequential run keeps them in the parent (or resumes them
in subprocesses after a layer that cannot be torn down).  In the model the iterations of a layer add
the same events, failures, errors and counts to *any* process state, under any options that agree on
`--buffer`, `--stop-on-error` and `--repeat`: the layer's contribution is a function of the layer.
(Modelling assumption: a test's script does not read process-global state left by other layers.)

Then the whole run: for a world with fault-free layer set-up, one group per layer and no KeyboardInterrupt
(`Calm`), without `-x`, the failures and erroring tests of parent plus subprocesses are the layers'
contributions in layer order (`C06_whole_run`: the sequential parent runs a prefix, `layerLoop_seq`, every
subprocess its one layer, `child_result`), hence the same for `-j N` and the sequential run.
(`childState w o l n` is the state of the subprocess whose outcome `Model/Whole` calls `childOut w o l`, there with
`n = numberOf w o l`; here the numbering and what the parent is told are left free.) -/
namespace Ztr.Runner
open Ztr.Layers Ztr.Proto Ztr.Result

theorem resultCfg_congr (w : World) (o o' : Opts) (l : Nat) (hb : o.buffer = o'.buffer)
    (hx : o.stopOnError = o'.stopOnError) : resultCfg w o l = resultCfg w o' l := by
  unfold resultCfg; rw [hb, hx]

theorem layerDelta_congr (w : World) (o o' : Opts) (l : Nat) (tests : List TestDef) (hb : o.buffer = o'.buffer)
    (hx : o.stopOnError = o'.stopOnError) : ∀ n, layerDelta w o l tests n = layerDelta w o' l tests n
  | 0 => rfl
  | n + 1 => by
    unfold layerDelta iterDelta
    rw [resultCfg_congr w o o' l hb hx, layerDelta_congr w o o' l tests hb hx n]

/-- **C06_layer_same_in_every_process** — for options that agree on `--buffer` and `--stop-on-error`
(a `-j N` parent hands exactly these to its children; `processes` and `resume` may differ), the
iterations of a layer add the same test events and summaries, the same failures and errors, and the
same counts to the state of whichever process runs them, whatever that process did before. -/
theorem C06_layer_same_in_every_process (w : World) (o o' : Opts) (l : Nat) (tests : List TestDef) (n : Nat)
    (hb : o.buffer = o'.buffer) (hx : o.stopOnError = o'.stopOnError) (s s' : PS) :
    Extends s (runIterations w o l tests n s) (layerDelta w o l tests n) ∧
    Extends s' (runIterations w o' l tests n s') (layerDelta w o l tests n) := by
  refine ⟨runIterations_extends w o l tests n s, ?_⟩
  rw [layerDelta_congr w o o' l tests hb hx n]
  exact runIterations_extends w o' l tests n s'


/-- the errors that stand for erroring tests -/
def testErrs (es : List Err) : List Nat :=
  es.filterMap (fun e => match e with | .test t => some t | _ => none)

theorem testErrs_append (a b : List Err) : testErrs (a ++ b) = testErrs a ++ testErrs b := by
  simp [testErrs]

/-- two process states with the same test-level results and flags -/
structure SameRes (s s' : PS) : Prop where
  failures : s'.failures = s.failures
  terrs : testErrs s'.errors = testErrs s.errors
  aborted : s'.aborted = s.aborted
  interrupted : s'.interrupted = s.interrupted

theorem SameRes.refl (s : PS) : SameRes s s := ⟨rfl, rfl, rfl, rfl⟩

theorem SameRes.of_logs {cb : Nat → Bool} {s s' : PS} {new : List (Ev × Snap)} (hl : Logs cb s s' new) : SameRes s s' := by
  refine ⟨hl.failures, ?_, hl.aborted, hl.interrupted⟩
  rw [hl.errors, testErrs_append]
  have : testErrs ((new.map (·.1)).filterMap (errOf cb)) = [] :=
    List.filterMap_eq_nil_iff.2 fun e he => by
      obtain ⟨x, _, hx⟩ := List.mem_filterMap.1 he
      cases e with
      | test t => exact absurd hx (errOf_ne_test cb x t)
      | _ => rfl
  rw [this, List.append_nil]

theorem sameRes_final (w : World) (o : Opts) (cb : Nat → Bool) : SameRes (fsLoop w o).1 (finalState w o cb) := by
  obtain ⟨_, hl, _⟩ := finalState_logs w o cb
  exact .of_logs hl

def NoSetUpFaults (w : World) : Prop := ∀ l k, w.setUpRaises l k = false

theorem setupLayer_ok (w : World) (hw : NoSetUpFaults w) (l : Nat) (s : PS) : (setupLayer w l s).2 = true := by
  obtain ⟨_, _, hk⟩ := setupLayer_logs (fun _ => false) w l s
  cases hok : (setupLayer w l s).2
  · obtain ⟨b, k, hr⟩ := hk.oracle hok
    rw [hw b k] at hr
    cases hr
  · rfl


/-- test-level part of `Extends` -/
structure ResExt (s s' : PS) (F E : List Nat) : Prop where
  failures : s'.failures = s.failures ++ F
  terrs : testErrs s'.errors = testErrs s.errors ++ E
  aborted : s'.aborted = s.aborted
  interrupted : s'.interrupted = s.interrupted

theorem ResExt.of_same {s s' : PS} (h : SameRes s s') : ResExt s s' [] [] :=
  ⟨by simp [h.failures], by simp [h.terrs], h.aborted, h.interrupted⟩

theorem ResExt.trans {a b c : PS} {F1 E1 F2 E2 : List Nat} (h1 : ResExt a b F1 E1) (h2 : ResExt b c F2 E2) :
    ResExt a c (F1 ++ F2) (E1 ++ E2) :=
  ⟨by rw [h2.failures, h1.failures, List.append_assoc], by rw [h2.terrs, h1.terrs, List.append_assoc],
    h2.aborted.trans h1.aborted, h2.interrupted.trans h1.interrupted⟩

theorem layerDelta_flags (w : World) (o : Opts) (l : Nat) (tests : List TestDef) (hx : o.stopOnError = false)
    (hq : ∀ t ∈ tests, Quiet t) (n : Nat) : (layerDelta w o l tests n).aborted = false ∧
      (layerDelta w o l tests n).interrupted = false := by
  obtain ⟨_, h2⟩ := runTests_quiet (resultCfg w o l) hx tests {} hq between_init rfl rfl
  exact ⟨layerDelta_aborted w o l tests n, layerDelta_induction w o l tests (P := fun d => d.interrupted = false) rfl
    (fun _ => rfl) (fun h => by rw [h2] at h; cases h) rfl (fun _ hd => hd) n⟩

/-- failures and erroring tests a layer contributes -/
def layerF (w : World) (o : Opts) (g : Nat × List TestDef) : List Nat := (layerDelta w o g.1 g.2 (reps o)).failures
def layerE (w : World) (o : Opts) (g : Nat × List TestDef) : List Nat := testErrs (layerDelta w o g.1 g.2 (reps o)).errors

-- from here on `run_layer`'s callees stay folded, as in `Lemmas/Runner` (where the reason is given)
attribute [local irreducible] runIterations setupLayer tearDownUnneeded

/-- **runLayer, fault-free set-up** — either `CanNotTearDown` (nothing changes at test level), or the
layer's tests run here and contribute exactly `layerDelta` -/
theorem runLayer_calm (w : World) (hw : NoSetUpFaults w) (o : Opts) (hx : o.stopOnError = false)
    (l : Nat) (tests : List TestDef) (hq : ∀ t ∈ tests, Quiet t) (s : PS) :
    ((runLayer w o l tests s).2 = true ∧ SameRes s (runLayer w o l tests s).1) ∨
    ((runLayer w o l tests s).2 = false ∧ ResExt s (runLayer w o l tests s).1 (layerF w o (l, tests)) (layerE w o (l, tests))) := by
  refine runLayer_cases w o l tests s (P := fun r => (r.2 = true ∧ SameRes s r.1) ∨
    (r.2 = false ∧ ResExt s r.1 (layerF w o (l, tests)) (layerE w o (l, tests)))) ?_ ?_ ?_
  · intro _
    obtain ⟨new, hl, _⟩ := rlTorn_logs (fun _ => false) w o l s
    exact Or.inl ⟨rfl, .of_logs hl⟩
  · intro _ hf
    rw [setupLayer_ok w hw] at hf
    cases hf
  · intro hc _
    obtain ⟨new, hl, _⟩ := rlReady_logs (fun _ => false) w o l s hc
    have he := runIterations_extends w o l tests (reps o) { rlReady w o l s with ran := 0 }
    obtain ⟨fa, fi⟩ := layerDelta_flags w o l tests hx hq (reps o)
    have h1 : ResExt s (rlReady w o l s) [] [] := .of_same (.of_logs hl)
    have h2 : ResExt (rlReady w o l s) (runIterations w o l tests (reps o) { rlReady w o l s with ran := 0 })
        (layerF w o (l, tests)) (layerE w o (l, tests)) :=
      ⟨he.failures, by rw [he.errors, testErrs_append]; rfl, by rw [he.aborted, fa]; exact Bool.or_false _,
        by rw [he.interrupted, fi]; exact Bool.or_false _⟩
    obtain ⟨a, b, c, d⟩ := h1.trans h2
    exact Or.inr ⟨rfl, by simpa using a, by simpa using b, c, d⟩


theorem layerLoop_seq (w : World) (hw : NoSetUpFaults w) (o : Opts) (hx : o.stopOnError = false)
    (hp : ¬ o.processes > 1) (hr : o.resume = none) :
    ∀ (L : List (Nat × List TestDef)) (s : PS), (∀ g ∈ L, ∀ t ∈ g.2, Quiet t) → s.aborted = false →
      s.interrupted = false →
      ∃ pre, L = pre ++ (layerLoop w o L s).2 ∧
        ResExt s (layerLoop w o L s).1 (pre.flatMap (layerF w o)) (pre.flatMap (layerE w o))
  | [], s, _, _, _ => ⟨[], by simp [layerLoop], by simpa [layerLoop] using ResExt.of_same (SameRes.refl s)⟩
  | (l, tests) :: rest, s, hq, ha, hi => by
    -- (not through `layerLoop_cases`: that rule does not say why the loop stops, and here stopping has to be refuted)
    rw [layerLoop]
    rcases runLayer_calm w hw o hx l tests (hq (l, tests) (by simp)) s with ⟨h2, hs⟩ | ⟨h2, he⟩
    · have fa : (runLayer w o l tests s).1.aborted = false := hs.aborted.trans ha
      have fi : (runLayer w o l tests s).1.interrupted = false := hs.interrupted.trans hi
      simp only [fa, fi, h2, hr, Bool.or_self, Bool.false_eq_true, if_false, if_true]
      exact ⟨[], by simp, by simpa using ResExt.of_same hs⟩
    · have fa : (runLayer w o l tests s).1.aborted = false := he.aborted.trans ha
      have fi : (runLayer w o l tests s).1.interrupted = false := he.interrupted.trans hi
      simp only [fa, fi, h2, hp, hx, Bool.or_self, Bool.false_and, Bool.false_eq_true, if_false]
      obtain ⟨pre, e1, e2⟩ := layerLoop_seq w hw o hx hp hr rest (runLayer w o l tests s).1
        (fun g hg => hq g (by simp [hg])) fa fi
      refine ⟨(l, tests) :: pre, by rw [List.cons_append, ← e1], ?_⟩
      simpa [List.flatMap_cons] using he.trans e2

theorem tearDownUnneeded_empty (w : World) (needed : List Nat) (opt : Bool) (s : PS) (h : s.setup = []) :
    tearDownUnneeded w needed opt s = (s, false) := by
  unfold tearDownUnneeded
  simp [h, orderByBases_nil, tearDownList]

theorem rlHeader_setup (o : Opts) (l : Nat) (s : PS) : (rlHeader o l s).setup = s.setup := by
  unfold rlHeader; split <;> rfl

theorem layerLoop_singleton (w : World) (o : Opts) (l : Nat) (tests : List TestDef) (s : PS) :
    (layerLoop w o [(l, tests)] s).1 = (runLayer w o l tests s).1 :=
  layerLoop_cases w o l tests [] s (P := fun s' _ => s' = (runLayer w o l tests s).1) rfl (fun _ _ => rfl) (fun _ => rfl)
    fun _ => by rw [layerLoop]

theorem layerFE_congr (w : World) (o o' : Opts) (g : Nat × List TestDef) (hb : o.buffer = o'.buffer)
    (hx : o.stopOnError = o'.stopOnError) (hr : o.repeat_ = o'.repeat_) :
    layerF w o g = layerF w o' g ∧ layerE w o g = layerE w o' g := by
  unfold layerF layerE reps
  rw [layerDelta_congr w o o' g.1 g.2 hb hx, hr]
  exact ⟨rfl, rfl⟩

theorem child_result (w : World) (hw : NoSetUpFaults w) (o : Opts) (hx : o.stopOnError = false)
    (hnd : (w.groups.map (·.1)).Nodup) (l n : Nat) (tests : List TestDef) (hg : (l, tests) ∈ w.groups)
    (hq : ∀ t ∈ tests, Quiet t) (cb : Nat → Bool) :
    (finalState w { o with resume := some (l, n) } cb).failures = layerF w o (l, tests) ∧
    testErrs (finalState w { o with resume := some (l, n) } cb).errors = layerE w o (l, tests) := by
  have hfin := sameRes_final w { o with resume := some (l, n) } cb
  -- the child's loop runs its one layer, from the empty state
  have hloop : (fsLoop w { o with resume := some (l, n) }).1 = (runLayer w { o with resume := some (l, n) } l tests {}).1 := by
    unfold fsLoop fsStart
    simp only [Option.isNone_some, Bool.and_false, Bool.false_eq_true, if_false]
    rw [orderedLayers_child w o l n tests hnd hg, layerLoop_singleton]
  rw [hloop] at hfin
  -- nothing is set up, so nothing stands in the way of the layer
  have hno : (runLayer w { o with resume := some (l, n) } l tests {}).2 = false := by
    rw [runLayer_snd, rlTorn, tearDownUnneeded_empty w _ false _ (by rw [rlHeader_setup])]
  rcases runLayer_calm w hw { o with resume := some (l, n) } hx l tests hq {} with ⟨h2, _⟩ | ⟨_, he⟩
  · rw [hno] at h2
    cases h2
  · obtain ⟨cF, cE⟩ := layerFE_congr w { o with resume := some (l, n) } o (l, tests) rfl rfl rfl
    rw [hfin.failures, hfin.terrs, he.failures, he.terrs, cF, cE]
    exact ⟨rfl, rfl⟩


/-- the state of the subprocess for layer `l`, started with resume number `n` -/
def childState (w : World) (o : Opts) (l n : Nat) : PS :=
  finalState w { o with resume := some (l, n) } (fun _ => false)

/-- the failures of a whole run: the parent's own, then those of the subprocesses of the layers its
layer loop left over (by `C01_rest_in_children` exactly the layers it spawns, in this order) -/
def wholeFailures (w : World) (o : Opts) (cb : Nat → Bool) (num : Nat → Nat) : List Nat :=
  (finalState w o cb).failures ++ (fsLoop w o).2.flatMap (fun g => (childState w o g.1 (num g.1)).failures)

/-- the erroring tests of a whole run -/
def wholeTestErrors (w : World) (o : Opts) (cb : Nat → Bool) (num : Nat → Nat) : List Nat :=
  testErrs (finalState w o cb).errors ++
    (fsLoop w o).2.flatMap (fun g => testErrs (childState w o g.1 (num g.1)).errors)

/-- hypotheses of the whole-run statement: fault-free layer set-up, one group per layer, no
KeyboardInterrupt out of a test -/
structure Calm (w : World) : Prop where
  noSetUpFaults : NoSetUpFaults w
  keys : (w.groups.map (·.1)).Nodup
  quiet : ∀ g ∈ w.groups, ∀ t ∈ g.2, Quiet t

/-- **C06_whole_run** — in every mode (sequential, sequential with layers resumed in subprocesses after
a layer that cannot be torn down, `-j N`) the failures and the erroring tests of the whole run are the
contributions of the selected layers, in layer order; no layer is lost or run twice, whatever the
subprocess numbering and whatever the parent is told about its children. -/
theorem C06_whole_run (w : World) (hc : Calm w) (o : Opts) (hr : o.resume = none) (hx : o.stopOnError = false)
    (cb : Nat → Bool) (num : Nat → Nat) :
    wholeFailures w o cb num = (orderedLayers w o).flatMap (layerF w o) ∧
    wholeTestErrors w o cb num = (orderedLayers w o).flatMap (layerE w o) := by
  obtain ⟨_, _, hmem⟩ := C03_layers_once w o hr
  -- the parent's own layers, then the layers it leaves to subprocesses
  obtain ⟨pre, e1, e2⟩ : ∃ pre, orderedLayers w o = pre ++ (fsLoop w o).2 ∧
      ResExt {} (fsLoop w o).1 (pre.flatMap (layerF w o)) (pre.flatMap (layerE w o)) := by
    unfold fsLoop fsStart
    split
    · exact ⟨[], (List.nil_append _).symm, .of_same (.of_logs (logs_emit cb {} _ rfl))⟩
    · rename_i hp
      exact layerLoop_seq w hc.noSetUpFaults o hx (by simpa [hr] using hp) hr _ {}
        (fun g hg => hc.quiet g (hmem g hg)) rfl rfl
  have hfin := sameRes_final w o cb
  have hchild := fun g (hg : g ∈ (fsLoop w o).2) =>
    child_result w hc.noSetUpFaults o hx hc.keys g.1 (num g.1) g.2 (hmem g (e1 ▸ List.mem_append_right _ hg))
      (hc.quiet g (hmem g (e1 ▸ List.mem_append_right _ hg))) (fun _ => false)
  unfold wholeFailures wholeTestErrors childState
  rw [hfin.failures, hfin.terrs, e2.failures, e2.terrs, e1, List.flatMap_append, List.flatMap_append,
    flatMap_congr' fun g hg => (hchild g hg).1, flatMap_congr' fun g hg => (hchild g hg).2]
  exact ⟨rfl, rfl⟩

/-- **C06_equals_sequential** — a `-j N` run and the sequential run of the same world (same `--buffer`,
`--repeat`, no `--stop-on-error`) report the same failures and the same erroring tests. -/
theorem C06_equals_sequential (w : World) (hc : Calm w) (o : Opts) (hr : o.resume = none)
    (hx : o.stopOnError = false) (N : Nat) (cb cb' : Nat → Bool) (num num' : Nat → Nat) :
    wholeFailures w { o with processes := N } cb num = wholeFailures w { o with processes := 1 } cb' num' ∧
    wholeTestErrors w { o with processes := N } cb num = wholeTestErrors w { o with processes := 1 } cb' num' := by
  obtain ⟨a1, a2⟩ := C06_whole_run w hc { o with processes := N } hr hx cb num
  obtain ⟨b1, b2⟩ := C06_whole_run w hc { o with processes := 1 } hr hx cb' num'
  have hL : orderedLayers w { o with processes := N } = orderedLayers w { o with processes := 1 } := rfl
  rw [a1, a2, b1, b2, hL]
  have hcong := fun g => layerFE_congr w { o with processes := N } { o with processes := 1 } g rfl rfl rfl
  exact ⟨flatMap_congr' fun g _ => (hcong g).1, flatMap_congr' fun g _ => (hcong g).2⟩


/-! ### non-vacuity: a world that meets `Calm`, with a layer that cannot be torn down, a failing and an
erroring test -/

def c6W : World where
  graph := c1G
  info := fun _ => ⟨true, true, true, true⟩
  setUpRaises := fun _ _ => false
  tearDownResult := fun l _ => if l == 1 then .notImpl else .ok
  groups := [(1, [{ id := 10, body := { exc := some .fail } }]), (2, [{ id := 20 }, { id := 21, setUp := { exc := some .error } }])]
  importErrors := 0

theorem c6W_calm : Calm c6W where
  noSetUpFaults := fun _ _ => rfl
  keys := by decide
  quiet := by
    have h : ∀ g ∈ c6W.groups, ∀ t ∈ g.2, ∀ op ∈ Proto.run t, op ≠ Op.raiseInterrupt := by decide
    exact h

example : wholeFailures c6W { processes := 1 } (fun _ => true) (fun _ => 0) = [10] ∧
    wholeTestErrors c6W { processes := 1 } (fun _ => true) (fun _ => 0) = [21] ∧
    (fsLoop c6W { processes := 1 }).2.map (·.1) = [2] ∧
    wholeFailures c6W { processes := 3 } (fun _ => false) (fun l => l) = [10] ∧
    (fsLoop c6W { processes := 3 }).2.map (·.1) = [1, 2] := by decide +kernel

end Ztr.Runner
