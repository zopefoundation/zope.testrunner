import Ztr.Model.Discovery
import Ztr.Lemmas.Sort
import Ztr.Lemmas.SeenLoop
/-! # C14 — discovery loads exactly the matching test modules, once, in sorted order -/
namespace Ztr.Discovery
open Ztr.Bytecode

theorem dedup_loop : SeenLoop dedup :=
  ⟨fun _ => rfl, fun _ h => if_pos (List.contains_iff_mem.2 h), fun _ h => if_neg (mt List.contains_iff_mem.1 h)⟩

/-- **C14_once** — however the search paths overlap, nest or repeat, no file is yielded twice, and
nothing a walk found is lost. -/
theorem C14_once (e : Env) (roots : List (List Name × Tree)) :
    (findTestFiles e roots).Nodup ∧
    ∀ p, p ∈ findTestFiles e roots ↔
      p ∈ roots.flatMap (fun r => (findIn e (r.1.getLast?.getD []) r.2).map (fun q => r.1 ++ q)) :=
  ⟨dedup_loop.nodup _ _, fun _ => (dedup_loop.mem [] _).trans (and_iff_left List.not_mem_nil)⟩

/-- **C14_enum_independent (files)** — the files a directory contributes do not depend on the order
in which the file system enumerates them. -/
theorem C14_enum_independent_files (e : Env) (base : Name) {files files' : List Name} (h : files.Perm files') :
    dirWinners e base files = dirWinners e base files' := by
  unfold dirWinners
  rw [PySort.isort_perm_eq (le := nameLe) (.asc id) h fun _ _ _ _ => id]

theorem findSubs_map (e : Env) : ∀ subs : List (Name × Tree),
    findSubs e subs = subs.map (fun p => (p.1, if enters e p.1 then (findIn e p.1 p.2).map (fun q => p.1 :: q) else []))
  | [] => rfl
  | (n, t) :: rest => by rw [findSubs, findSubs_map e rest, List.map_cons]

/-- **C14_enum_independent (directories)** — nor on the order in which sub-directories are
enumerated (their names are distinct). -/
theorem C14_enum_independent_dirs (e : Env) (base : Name) (files : List Name) {subs subs' : List (Name × Tree)}
    (h : subs.Perm subs') (hnd : (subs.map (·.1)).Nodup) :
    findIn e base (.dir files subs) = findIn e base (.dir files subs') := by
  simp only [findIn, findSubs_map]
  -- what the sub-directories contribute is sorted by their names, which are distinct
  rw [PySort.isort_perm_eq (le := resLe) (.asc Prod.fst) (h.map _)
    (PySort.inj_of_nodup_map (by rw [List.map_map]; exact hnd))]

/-- the property's first sentence as an inductive specification -/
inductive Found (e : Env) : Name → Tree → List Name → Prop
  | here {base files subs f} : f ∈ dirWinners e base files → Found e base (.dir files subs) [f]
  | inside {base files subs n t p} : (n, t) ∈ subs → enters e n = true → Found e n t p →
      Found e base (.dir files subs) (n :: p)

mutual
theorem findIn_sound (e : Env) : ∀ (base : Name) (t : Tree) (p : List Name), p ∈ findIn e base t → Found e base t p
  | base, .dir files subs, p, h => by
    simp only [findIn, List.mem_append, List.mem_map, List.mem_flatMap] at h
    rcases h with ⟨f, hf, rfl⟩ | ⟨r, hr, hp⟩
    · exact .here hf
    · obtain ⟨n, t, q, hm, he, hq, rfl⟩ := findSubs_sound e subs r ((PySort.mem_isort resLe _ r).1 hr) p hp
      exact .inside hm he hq
theorem findSubs_sound (e : Env) : ∀ (subs : List (Name × Tree)) (r : Name × List (List Name)), r ∈ findSubs e subs →
    ∀ p ∈ r.2, ∃ n t q, (n, t) ∈ subs ∧ enters e n = true ∧ Found e n t q ∧ p = n :: q
  | [], r, h => nomatch h
  | (n, t) :: rest, r, h => by
    rw [findSubs, List.mem_cons] at h
    rcases h with rfl | h
    · intro p hp
      split at hp
      · next he =>
        obtain ⟨q, hq, rfl⟩ := List.mem_map.1 hp
        exact ⟨n, t, q, List.mem_cons_self, he, findIn_sound e n t q hq, rfl⟩
      · cases hp
    · intro p hp
      obtain ⟨n', t', q, hm, ho⟩ := findSubs_sound e rest r h p hp
      exact ⟨n', t', q, List.mem_cons_of_mem _ hm, ho⟩
end

theorem findIn_complete (e : Env) : ∀ {base : Name} {t : Tree} {p : List Name}, Found e base t p → p ∈ findIn e base t := by
  intro base t p h
  induction h with
  | here hf =>
    simp only [findIn, List.mem_append, List.mem_map]
    exact Or.inl ⟨_, hf, rfl⟩
  | @inside base files subs n t p hm he _ ih =>
    simp only [findIn, List.mem_append, List.mem_flatMap]
    refine Or.inr ⟨(n, (findIn e n t).map (fun q => n :: q)), ?_, List.mem_map.2 ⟨p, ih, rfl⟩⟩
    rw [PySort.mem_isort, findSubs_map]
    exact List.mem_map.2 ⟨(n, t), hm, by simp [he]⟩

/-- **C14_exact** — a path is yielded for a walked directory **iff** it is one of the matching files
(`dirWinners`: matches the tests pattern, or lies in a package matching it and matches the test-file
pattern; `.py` preferred over `.pyc`) of a directory reached through sub-directories that are
identifiers, not ignored and not in `IGNORE_FOLDERS`. -/
theorem C14_exact (e : Env) (base : Name) (t : Tree) (p : List Name) : p ∈ findIn e base t ↔ Found e base t p :=
  ⟨findIn_sound e base t p, findIn_complete e⟩

theorem C14_winner_spec (e : Env) (base : Name) (files : List Name) (f : Name) :
    f ∈ dirWinners e base files ↔
      f ∈ files ∧ ∃ k, candKey e base (PySort.isort nameLe files) f = some k ∧
        ∀ g ∈ files, candKey e base (PySort.isort nameLe files) g = some k → ¬ g < f := by
  unfold dirWinners
  rw [List.mem_filter, PySort.mem_isort]
  cases candKey e base (PySort.isort nameLe files) f with
  | none => simp only [reduceCtorEq, false_and, exists_const]
  | some k =>
    simp only [Bool.not_eq_true', List.any_eq_false, PySort.mem_isort, Bool.and_eq_true, beq_iff_eq,
      decide_eq_true_eq, not_and, Option.some.injEq, exists_eq_left']

/-- the loop of `find_suites` over one file's candidate names, for any way `g` of listing them -/
theorem mem_filterMap_find {α β : Type} {g : α → List β} {accept : β → Bool} {l : List α} {m : β}
    (h : m ∈ l.filterMap fun p => (g p).find? accept) : accept m = true ∧ ∃ p ∈ l, m ∈ g p := by
  obtain ⟨p, hp, hm⟩ := List.mem_filterMap.1 h
  exact ⟨List.find?_some hm, p, hp, List.mem_of_find?_eq_some hm⟩

/-- **C14_import_gate** — a module is imported only under a dotted name that (i) is one of the names
of a yielded file (a search path stripped, the package in front) and (ii) passes `--module`; a name
excluded by the filter is never imported. -/
theorem C14_import_gate (e : Env) (accept : List Name → Bool) (roots : List (List Name × Tree))
    (pkgs : List (List Name)) (m : List Name) (h : m ∈ importedModules e accept roots pkgs) :
    accept m = true ∧ ∃ p ∈ findTestFiles e roots, m ∈ moduleNames e roots pkgs p :=
  mem_filterMap_find h

/-- each yielded file is imported at most once (the loop over the search paths ends with the first
accepted name) -/
theorem C14_import_once (e : Env) (accept : List Name → Bool) (roots : List (List Name × Tree))
    (pkgs : List (List Name)) :
    (importedModules e accept roots pkgs).length ≤ (findTestFiles e roots).length :=
  List.length_filterMap_le _ _

theorem moduleNamesWith_prefix (e : Env) (roots : List (List Name × Tree)) (pkgs : List (List Name))
    (pkg p m : List Name) (h : m ∈ moduleNamesWith e roots pkgs pkg p) : pkg.isPrefixOf m = true := by
  obtain ⟨r, _, hr⟩ := List.mem_filterMap.1 h
  simp only at hr
  split at hr
  · cases hr
  · obtain ⟨noext, _, rfl⟩ := Option.map_eq_some_iff.1 hr
    simp [List.append_assoc]

/-- **C14_module_name_has_package** — every name the `--module` patterns see is an imported dotted
name: it starts with the package of the search path the file was found under (C08 applies the
patterns to this name). -/
theorem C14_module_name_has_package (e : Env) (roots : List (List Name × Tree)) (pkgs : List (List Name))
    (p m : List Name) (h : m ∈ moduleNames e roots pkgs p) :
    (yieldPkg e roots pkgs p).isPrefixOf m = true :=
  moduleNamesWith_prefix e roots pkgs _ p m h

theorem testDirsAux_spec (pre : List ((List Name × Tree) × List Name)) :
    ∀ (ds seen : List (List Name)),
      (∀ r ∈ testDirsAux pre seen ds, r.1.1 ∈ ds ∧ r.1.1 ∉ seen) ∧ ((testDirsAux pre seen ds).map (·.1.1)).Nodup
  | [], seen => by simp [testDirsAux]
  | d :: ds, seen => by
    -- `d` is passed over: seen before, under no search path, or not a directory
    have skip : (∀ r ∈ testDirsAux pre seen ds, r.1.1 ∈ d :: ds ∧ r.1.1 ∉ seen) ∧
        ((testDirsAux pre seen ds).map (·.1.1)).Nodup :=
      (testDirsAux_spec pre ds seen).imp_left fun h1 r hr => ⟨List.mem_cons_of_mem _ (h1 r hr).1, (h1 r hr).2⟩
    rw [testDirsAux]
    split
    · exact skip
    · next hs =>
      split
      · split
        · -- `d` is new and a directory under a search path: it is yielded and joins `seen`
          obtain ⟨h1, h2⟩ := testDirsAux_spec pre ds (d :: seen)
          refine ⟨List.forall_mem_cons.2 ⟨⟨List.mem_cons_self, mt List.contains_iff_mem.2 hs⟩, fun r hr =>
            ⟨List.mem_cons_of_mem _ (h1 r hr).1, fun hh => (h1 r hr).2 (List.mem_cons_of_mem _ hh)⟩⟩, ?_⟩
          refine List.nodup_cons.2 ⟨fun hh => ?_, h2⟩
          obtain ⟨r, hr, e⟩ := List.mem_map.1 hh
          exact (h1 r hr).2 (e ▸ List.mem_cons_self)
        · exact skip
      · exact skip

/-- **C14_package_once** — with `-s`, each package directory is walked at most once, however often it
is named, and only directories of the named packages are walked. -/
theorem C14_package_once (roots : List (List Name × Tree)) (pkgs : List (List Name)) (ds : List (List Name)) :
    ((testDirs roots pkgs (some ds)).map (·.1.1)).Nodup ∧ ∀ r ∈ testDirs roots pkgs (some ds), r.1.1 ∈ ds :=
  have ⟨h1, h2⟩ := testDirsAux_spec (prefixes roots pkgs) ds []
  ⟨h2, fun r hr => (h1 r hr).1⟩

/-- **C14_package_restricts** — with `-s`, every file that is loaded lies inside a directory of one of
the named packages: modules outside `--package` are never imported. -/
theorem C14_package_restricts (e : Env) (roots : List (List Name × Tree)) (pkgs : List (List Name))
    (ds : List (List Name)) (p : List Name) (h : p ∈ findTestFilesS e roots pkgs (some ds)) :
    ∃ d ∈ ds, d.isPrefixOf p = true := by
  obtain ⟨r, hr, hp⟩ := List.mem_flatMap.1 (((C14_once e _).2 p).1 h)
  obtain ⟨q, _, rfl⟩ := List.mem_map.1 hp
  obtain ⟨rr, hrr, rfl⟩ := List.mem_map.1 hr
  exact ⟨rr.1.1, (C14_package_once roots pkgs ds).2 rr hrr, List.isPrefixOf_iff_prefix.2 (List.prefix_append _ _)⟩

/-- without `-s` the walk starts at the search paths: all theorems above apply to `findTestFilesS` -/
theorem findTestFilesS_none (e : Env) (roots : List (List Name × Tree)) (pkgs : List (List Name))
    (hl : roots.length = pkgs.length) : findTestFilesS e roots pkgs none = findTestFiles e roots := by
  unfold findTestFilesS testDirs
  rw [List.map_fst_zip (Nat.le_of_eq hl)]

theorem importedModulesS_none (e : Env) (accept : List Name → Bool) (roots : List (List Name × Tree))
    (pkgs : List (List Name)) (hl : roots.length = pkgs.length) :
    importedModulesS e accept roots pkgs none = importedModules e accept roots pkgs := by
  unfold importedModulesS importedModules moduleNamesS moduleNames yieldPkgS
  rw [findTestFilesS_none e roots pkgs hl]
  unfold testDirs
  rw [List.map_fst_zip (Nat.le_of_eq hl), List.map_snd_zip (Nat.le_of_eq hl.symm)]

/-- with `-s` as well a module is imported only under a name that passes `--module`, at most once per file -/
theorem C14_import_gate_S (e : Env) (accept : List Name → Bool) (roots : List (List Name × Tree))
    (pkgs : List (List Name)) (pd : Option (List (List Name))) (m : List Name)
    (h : m ∈ importedModulesS e accept roots pkgs pd) :
    accept m = true ∧ ∃ p ∈ findTestFilesS e roots pkgs pd, m ∈ moduleNamesS e roots pkgs pd p :=
  mem_filterMap_find h

/-- the facts the walk relies on, from the source -/
theorem C14_ignore_folders : Facts.ignoreFolders = [".git", "__pycache__", "node_modules"] ∧
    Facts.defaultTestsPattern = "^tests$" ∧ Facts.defaultTestFilePattern = "^test" := ⟨rfl, rfl, rfl⟩

end Ztr.Discovery
