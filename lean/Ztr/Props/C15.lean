import Ztr.Model.Bytecode
/-! # C15 — stale-bytecode cleanup deletes only orphaned .pyc/.pyo files, and all of them -/
namespace Ztr.Bytecode

/-- the property, as an inductive specification: an orphan is a file lying directly in a walked
directory, named `….pyc`/`….pyo`, without the same-named `.py` beside it; a directory is walked if it
is reached through directories that are neither ignored nor `__pycache__`. -/
inductive Orphan (ignore : Name → Bool) : Tree → List Name → Prop
  | direct {files subs f} : f ∈ files → isStale files f = true → Orphan ignore (.dir files subs) [f]
  | inside {files subs n t p} : (n, t) ∈ subs → ignore n = false → n ≠ pycache →
      Orphan ignore t p → Orphan ignore (.dir files subs) (n :: p)

mutual
theorem stale_sound (ignore : Name → Bool) : ∀ (t : Tree) (p : List Name), p ∈ stale ignore t → Orphan ignore t p
  | .dir files subs, p, h => by
    simp only [stale, List.mem_append, List.mem_map, List.mem_filter] at h
    rcases h with ⟨f, ⟨hf, hs⟩, rfl⟩ | h
    · exact .direct hf hs
    · obtain ⟨n, t, q, hm, hi, hn, ho, rfl⟩ := staleSubs_sound ignore subs p h
      exact .inside hm hi hn ho
theorem staleSubs_sound (ignore : Name → Bool) : ∀ (subs : List (Name × Tree)) (p : List Name),
    p ∈ staleSubs ignore subs →
    ∃ n t q, (n, t) ∈ subs ∧ ignore n = false ∧ n ≠ pycache ∧ Orphan ignore t q ∧ p = n :: q
  | [], p, h => nomatch h
  | (n, t) :: rest, p, h => by
    rw [staleSubs, List.mem_append] at h
    rcases h with h | h
    · split at h
      · cases h
      · next hc =>
        obtain ⟨q, hq, rfl⟩ := List.mem_map.1 h
        rw [Bool.or_eq_true, not_or, Bool.not_eq_true, beq_iff_eq] at hc
        exact ⟨n, t, q, List.mem_cons_self, hc.1, hc.2, stale_sound ignore t q hq, rfl⟩
    · obtain ⟨n', t', q, hm, ho⟩ := staleSubs_sound ignore rest p h
      exact ⟨n', t', q, List.mem_cons_of_mem _ hm, ho⟩
end

theorem staleSubs_eq (ignore : Name → Bool) : ∀ subs : List (Name × Tree), staleSubs ignore subs =
    subs.flatMap fun p => if ignore p.1 || p.1 == pycache then [] else (stale ignore p.2).map (fun q => p.1 :: q)
  | [] => rfl
  | (n, t) :: rest => by rw [staleSubs, staleSubs_eq ignore rest, List.flatMap_cons]

theorem stale_complete (ignore : Name → Bool) : ∀ {t : Tree} {p : List Name}, Orphan ignore t p → p ∈ stale ignore t := by
  intro t p h
  induction h with
  | direct hf hs => exact List.mem_append_left _ (List.mem_map.2 ⟨_, List.mem_filter.2 ⟨hf, hs⟩, rfl⟩)
  | inside hm hi hn _ ih =>
    rw [stale, staleSubs_eq]
    refine List.mem_append_right _ (List.mem_flatMap.2 ⟨_, hm, ?_⟩)
    rw [hi, beq_eq_false_iff_ne.2 hn]
    exact List.mem_map.2 ⟨_, ih, rfl⟩

/-- **C15_exact** — for every directory tree and every ignore set: a path is deleted **iff** it is an
orphan (`C15_only_orphans`: `stale_sound`; `C15_all_orphans`: `stale_complete`). -/
theorem C15_exact (ignore : Name → Bool) (t : Tree) (p : List Name) : p ∈ stale ignore t ↔ Orphan ignore t p :=
  ⟨stale_sound ignore t p, stale_complete ignore⟩

/-- **C15_keep** — with `--keepbytecode` or `--usecompiled` nothing is deleted at all. -/
theorem C15_keep (k u : Bool) (ignore : Name → Bool) (roots : List (List Name × Tree)) (h : k = true ∨ u = true) :
    deletions k u ignore roots = [] := by
  rcases h with rfl | rfl <;> simp [deletions]

/-- **C15_roots** — with several (overlapping, repeated) search paths the deleted set is the union of
the orphans of each. -/
theorem C15_roots (ignore : Name → Bool) (roots : List (List Name × Tree)) (p : List Name) :
    p ∈ deletions false false ignore roots ↔ ∃ r ∈ roots, ∃ q, Orphan ignore r.2 q ∧ p = r.1 ++ q := by
  simp only [deletions, Bool.or_self, Bool.false_eq_true, if_false, List.mem_flatMap, List.mem_map]
  constructor
  · rintro ⟨r, hr, q, hq, rfl⟩; exact ⟨r, hr, q, (C15_exact ignore r.2 q).1 hq, rfl⟩
  · rintro ⟨r, hr, q, hq, rfl⟩; exact ⟨r, hr, q, (C15_exact ignore r.2 q).2 hq, rfl⟩

/-- the suffix table is the one of the source -/
theorem C15_suffixes : Facts.compiledSuffixes = [".pyc", ".pyo"] := rfl

-- look-alikes: `x.pyc.bak`, `pyc`, `X.PYC` stay; a file named exactly `.pyc` is an orphan of `.py`
example : stale (fun _ => false) (.dir [strName "x.pyc.bak", strName "pyc", strName "X.PYC", strName ".pyc",
    strName "a.py", strName "a.pyc", strName "b.pyo"] [(pycache, .dir [strName "c.pyc"] [])])
    = [[strName ".pyc"], [strName "b.pyo"]] := by decide +kernel

end Ztr.Bytecode
