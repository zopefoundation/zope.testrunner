import Ztr.Props.C01
import Ztr.Props.C05
import Ztr.Props.C12
/-! # C04 — exceptions raised by tests and layers are contained, never abort the run

In the model an operation the Python code could not perform (an `AttributeError` on state that a
call sequence left missing, the run dying in the middle) sets `aborted`.  `Proto` generates the call
sequences for *every* test script: any exception kind in any phase (setUp, sub-tests, body, tearDown,
clean-ups), any number of result events per test; layer `setUp`/`tearDown` outcomes come from an
arbitrary oracle. -/
namespace Ztr.Runner
open Ztr.Layers Ztr.Result

/-! ## nothing but the `TestResult` sets `aborted`, and it never does (`runTests_not_aborted`) -/

theorem layerDelta_aborted (w : World) (o : Opts) (l : Nat) (tests : List Proto.TestDef) (n : Nat) :
    (layerDelta w o l tests n).aborted = false :=
  layerDelta_induction w o l tests (P := fun d => d.aborted = false) rfl
    (fun h => by rw [runTests_not_aborted] at h; cases h) (fun _ => rfl) rfl (fun _ hd => hd) n

/-- **C04_no_abort** — for every world (layer graph, tests with arbitrary outcome scripts), every
oracle of layer `setUp`/`tearDown` outcomes, every option set (`--buffer`, `-x`, `--repeat`, `-j`) and
every process role (parent, resumed child): the process never reaches a state from which the Python
code could not continue — an exception raised by a test or a layer never aborts the run. -/
theorem C04_no_abort (w : World) (o : Opts) (cb : Nat → Bool) : (runProcess w o cb).aborted = false := by
  refine finalState_preserves (P := fun s => s.aborted = false) rfl (logs := fun hl _ => hl.aborted.trans)
    (setup := fun _ ok hl _ => by cases ok <;> exact hl.aborted.trans) (iters := fun g _ n _ _ he h => ?_) (ran := fun _ _ h => h)
  rw [he.aborted, h, layerDelta_aborted]
  rfl

/-- **C04_summary_each_iteration** — an iteration of the test phase of a layer always ends in its
summary event unless a KeyboardInterrupt is propagating: whatever the tests raised. -/
theorem C04_summary_each_iteration (w : World) (o : Opts) (l : Nat) (tests : List Proto.TestDef) (n : Nat) (s : PS)
    (hint : (runTests (resultCfg w o l) tests {}).interrupted = false) :
    ∃ a b c d, Ev.summary a b c d ∈ (runIterations w o l tests (n + 1) s).trace :=
  ⟨_, _, _, _, C12_summary w o l tests n s (runTests_not_aborted _ _) hint⟩

/-- **C04_layer_failure_recorded** — a layer whose `setUp` (or that of a base) raises is recorded as
an error against the layer, no test of it runs, and `run_layer` returns normally (so the layer loop
continues with the next layer). -/
theorem C04_layer_failure_recorded (w : World) (o : Opts) (l : Nat) (tests : List Proto.TestDef) (s : PS)
    (hcan : (tearDownUnneeded w (gather w.graph l) false (rlHeader o l s)).2 = false)
    (hfail : (setupLayer w l (tearDownUnneeded w (gather w.graph l) false (rlHeader o l s)).1).2 = false) :
    (runLayer w o l tests s).2 = false ∧
    (runLayer w o l tests s).1.errors = (rlReady w o l s).errors ++ [.layerSetUp l] ∧
    (runLayer w o l tests s).1.trace = (rlReady w o l s).trace := by
  rw [runLayer_eq]
  simp [rlTorn, hcan, hfail]

/-- **C04_all_torn_down** — the remaining layers are still torn down (C01). -/
theorem C04_all_torn_down (w : World) (hwf : WF w.graph) (o : Opts) (cb : Nat → Bool)
    (hint : (runProcess w o cb).interrupted = false) : (runProcess w o cb).leftover = [] :=
  all_torn_down w o cb (by rw [C04_no_abort, hint]; rfl)

end Ztr.Runner
