import Ztr.Lemmas.Result
import Ztr.Props.C10
import Ztr.Model.Runner
/-! # C05 — per-test layer hooks bracket every test: bases first, mirrored, balanced -/
namespace Ztr.Result
open Ztr.Proto

def hookEvs (l : List REv) : List REv := l.filter isHook

theorem hookEvs_append (a b : List REv) : hookEvs (a ++ b) = hookEvs a ++ hookEvs b := List.filter_append ..

theorem hookEvs_map {α : Type} (g : α → REv) (h : ∀ x, isHook (g x) = true) (l : List α) :
    hookEvs (l.map g) = l.map g :=
  List.filter_eq_self.2 (List.forall_mem_map.2 fun x _ => h x)

/-- **runTest_bracket** — one test, started between two tests: the events it adds are
`tstart`, the `testSetUp` hooks of its layer stack (bases first), events that are not hook calls,
the `testTearDown` hooks in reverse, `tend`; every hook sees the original std streams; the result is
again a between-tests state (not aborted, streams restored). -/
theorem runTest_bracket (c : Cfg) (t : TestDef) (s : RS) (hb : Between s) :
    ∃ mid, (runTest c s t).evs = s.evs ++ [.tstart t.id] ++ c.hooksUp.map (fun l => REv.hookSetUp l true) ++ mid
        ++ c.hooksDown.map (fun l => REv.hookTearDown l true) ++ [.tend t.id] ∧
      (∀ e ∈ mid, isHook e = false) ∧ Between (runTest c s t) := by
  refine runTest_rule c t s hb (Ext.refl _) (fun x op _ ho hx _ e => e.trans (ext_step_running c t x op hx ho))
    fun i x hr _ hext => ?_
  obtain ⟨mid, hmid, hnoh⟩ := hext.evs
  refine ⟨mid, ?_, hnoh, between_leave c t i hr⟩
  show x.evs ++ _ ++ _ = _
  rw [hmid]
  rfl

/-- every per-test hook call so far saw the original std streams -/
def HooksOrig (evs : List REv) : Prop :=
  ∀ e ∈ evs, (∀ l b, e = REv.hookSetUp l b → b = true) ∧ (∀ l b, e = REv.hookTearDown l b → b = true)

theorem runTest_hooksOrig (c : Cfg) (t : TestDef) (s : RS) (hb : Between s) (ho : HooksOrig s.evs) :
    HooksOrig (runTest c s t).evs := by
  obtain ⟨mid, hev, hmid, _⟩ := runTest_bracket c t s hb
  intro e he
  rw [hev] at he
  simp only [List.mem_append, List.mem_map, List.mem_singleton] at he
  rcases he with ((((he | rfl) | ⟨l, _, rfl⟩) | he) | ⟨l, _, rfl⟩) | rfl
  · exact ho e he
  · exact ⟨nofun, nofun⟩
  · exact ⟨fun _ _ h => by cases h; rfl, nofun⟩
  · constructor
    · rintro l b rfl
      cases hmid _ he
    · rintro l b rfl
      cases hmid _ he
  · exact ⟨nofun, fun _ _ h => by cases h; rfl⟩
  · exact ⟨nofun, nofun⟩

/-- **runTests_between** (under `runTests_not_aborted`, `C13_restored_between_tests`) — for every
sequence of tests with every outcome script, `--buffer` on or off, stop-on-error or not: the
`TestResult` never gets into a state Python could not continue from, every test leaves the
between-tests state (std streams restored), and every per-test layer hook saw the original streams. -/
theorem runTests_between (c : Cfg) : ∀ (ts : List TestDef) (s : RS), Between s → HooksOrig s.evs →
    Between (runTests c ts s) ∧ HooksOrig (runTests c ts s).evs :=
  fun ts s => runTests_inv c ts s fun t _ x => runTest_hooksOrig c t x

theorem between_init : Between ({} : RS) := ⟨rfl, rfl, rfl⟩

/-- **C05_bracket** (restated on the hook projection): a test adds exactly the `testSetUp` calls of
`hooksUp` in order, then — after all of its own code — the `testTearDown` calls of `hooksDown`. -/
theorem C05_bracket (c : Cfg) (t : TestDef) (s : RS) (hb : Between s) :
    hookEvs (runTest c s t).evs = hookEvs s.evs ++ c.hooksUp.map (fun l => REv.hookSetUp l true)
      ++ c.hooksDown.map (fun l => REv.hookTearDown l true) := by
  obtain ⟨mid, hev, hmid, _⟩ := runTest_bracket c t s hb
  have hmid' : hookEvs mid = [] := List.filter_eq_nil_iff.2 fun e he => by simp [hmid e he]
  have h1 : hookEvs [REv.tstart t.id] = [] := rfl
  have h2 : hookEvs [REv.tend t.id] = [] := rfl
  rw [hev]
  simp only [hookEvs_append]
  rw [hmid', h1, h2, hookEvs_map _ (fun _ => rfl), hookEvs_map _ (fun _ => rfl)]
  simp only [List.append_nil]

end Ztr.Result

namespace Ztr.Runner
open Ztr.Layers Ztr.Result

theorem runTests_not_aborted (c : Cfg) (tests : List Proto.TestDef) : (runTests c tests {}).aborted = false :=
  (runTests_between c tests {} between_init (List.forall_mem_nil _)).1.aborted

/-- **C05_bases_first** — the `testSetUp` order of a layer's `TestResult` puts base layers before
derived ones, for every well-founded layer graph. -/
theorem C05_bases_first (w : World) (o : Opts) (hwf : WF w.graph) (l : Nat) {x b : Nat}
    (hb : b ∈ closure w.graph x) (hne : b ≠ x)
    (hbu : b ∈ (resultCfg w o l).hooksUp) (hxu : x ∈ (resultCfg w o l).hooksUp) :
    [b, x].Sublist (resultCfg w o l).hooksUp := by
  unfold resultCfg at *
  simp only [List.mem_filter] at hbu hxu
  have hsub := C10_bases_first hwf (gather w.graph l) hb hne
    (((C10_once w.graph (gather w.graph l)).2 b).1 hbu.1) (((C10_once w.graph (gather w.graph l)).2 x).1 hxu.1)
  have := hsub.filter (fun y => (w.info y).hasTestSetUp)
  simpa [hbu.2, hxu.2] using this

/-- **C05_mirrored** — `testTearDown` runs over the same layer order reversed. -/
theorem C05_mirrored (w : World) (o : Opts) (l : Nat) :
    (resultCfg w o l).hooksDown
      = ((orderByBases w.graph (gather w.graph l)).filter (fun x => (w.info x).hasTestTearDown)).reverse := by
  simp [resultCfg]

/-- **C05_outside_untouched** — only layers of the test's own stack are ever called. -/
theorem C05_outside_untouched (w : World) (o : Opts) (l x : Nat)
    (h : x ∈ (resultCfg w o l).hooksUp ∨ x ∈ (resultCfg w o l).hooksDown) : x ∈ closure w.graph l := by
  unfold resultCfg at h
  simp only [List.mem_filter, List.mem_reverse] at h
  rcases h with h | h <;> exact ((C10_once w.graph (gather w.graph l)).2 x).1 h.1

end Ztr.Runner

namespace Ztr.Result
open Ztr.Proto
-- non-vacuity: a decorator-skipped test and a test with two failing subtests under --buffer
example : hookEvs (runTests { buffer := true, stopOnError := false, hooksUp := [1, 2], hooksDown := [2, 1] }
    [{ id := 7, decoSkip := true }, { id := 8, subs := [{ exc := some .fail }, { exc := some .error }] }] {}).evs
    = [.hookSetUp 1 true, .hookSetUp 2 true, .hookTearDown 2 true, .hookTearDown 1 true,
       .hookSetUp 1 true, .hookSetUp 2 true, .hookTearDown 2 true, .hookTearDown 1 true] := by decide
end Ztr.Result
