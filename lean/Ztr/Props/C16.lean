import Ztr.Lemmas.Result
import Ztr.Lemmas.Runner
/-! # C16 — `--stop-on-error` stops after the first failing test: within a `TestResult`, in the layer loop, in
`resume_tests`, across `--repeat` (the clean-up of the whole run is `Props/C16Run`) -/
namespace Ztr.Result
open Ztr.Proto

/-- **C16_stop_set** — under `--stop-on-error` every recorded failure/error sets `shouldStop`. -/
theorem C16_stop_set (c : Cfg) (t : TestDef) (s : RS) (op : Op) (hc : c.stopOnError = true)
    (hr : Running s) (hop : IsBadOp op) : (step c t s op).shouldStop = true := by
  refine step_running hr hop.mid_or_final (held := ?held) (leaked := ?leaked) (passed := ?passed) (skip := ?skip)
    (subOk := ?subOk) (bad := fun b _ => ?bad)
  case held | leaked =>
    rintro ph ws rfl
    exact hop.elim
  case passed => rintro (rfl | rfl) <;> exact hop.elim
  case skip => rintro (rfl | rfl) <;> exact hop.elim
  case subOk =>
    rintro rfl
    exact hop.elim
  case bad =>
    rw [bad_eq]
    show (s.shouldStop || c.stopOnError) = true
    rw [hc, Bool.or_true]

/-- **C16_stop_mono** — nothing resets `shouldStop` within a `TestResult`. -/
theorem C16_stop_mono (c : Cfg) (t : TestDef) (s : RS) (op : Op) (h : s.shouldStop = true) :
    (step c t s op).shouldStop = true := by
  rcases step_shouldStop c t s op with e | e
  · rw [e, h]
  · rw [e, h, Bool.true_or]

theorem stop_mono_foldl (c : Cfg) (t : TestDef) : ∀ (ops : List Op) (s : RS), s.shouldStop = true →
    (ops.foldl (step c t) s).shouldStop = true
  | [], _, h => h
  | op :: ops, s, h => stop_mono_foldl c t ops _ (C16_stop_mono c t s op h)

/-- **C16_no_test_after** — once `shouldStop` is set no further test of the list is started: the
loop returns the state unchanged (no `tstart` event, no hook, no code). -/
theorem C16_no_test_after (c : Cfg) (ts : List TestDef) (s : RS) (h : s.shouldStop = true) :
    runTests c ts s = s := by
  cases ts with
  | nil => rfl
  | cons t ts => simp [runTests, h]

/-- consequently the events of a test list end with the first test that set `shouldStop` -/
theorem C16_prefix (c : Cfg) (t : TestDef) (ts : List TestDef) (s : RS)
    (h0 : (s.shouldStop || s.aborted || s.interrupted) = false)
    (h : (runTest c s t).shouldStop = true) : runTests c (t :: ts) s = runTest c s t := by
  rw [runTests]
  simp only [h0, Bool.false_eq_true, if_false]
  exact C16_no_test_after c ts _ h

end Ztr.Result

namespace Ztr.Runner
open Ztr.Result

/-- **C16_no_layer_after** — in a sequential run under `--stop-on-error`, once a layer leaves a
failure or an error behind, no further layer is set up in this process and none is handed to
`resume_tests` either (the layer loop returns with nothing left to run). -/
theorem C16_no_layer_after (w : World) (o : Opts) (l : Nat) (tests : List Proto.TestDef)
    (rest : List (Nat × List Proto.TestDef)) (s : PS)
    (hx : o.stopOnError = true) (hj : o.processes ≤ 1)
    (hok : ((runLayer w o l tests s).1.aborted || (runLayer w o l tests s).1.interrupted) = false)
    (hcan : (runLayer w o l tests s).2 = false)
    (hbad : (!(runLayer w o l tests s).1.failures.isEmpty || !(runLayer w o l tests s).1.errors.isEmpty) = true) :
    layerLoop w o ((l, tests) :: rest) s = ((runLayer w o l tests s).1, []) := by
  rw [layerLoop]
  have hj' : ¬ (o.processes > 1) := by omega
  simp only [hok, Bool.false_eq_true, if_false, hcan, hj', hx, hbad, Bool.and_self, if_true]

/-- the children are not started either: `resume_tests` starts nothing once a failure is known -/
theorem C16_no_child_after (o : Opts) (childBad : Nat → Bool) (rest : List (Nat × List Proto.TestDef))
    (n : Nat) (s : PS) (hx : o.stopOnError = true) (hj : o.processes ≤ 1)
    (hbad : (!s.failures.isEmpty || !s.errors.isEmpty) = true) :
    spawnAll o childBad rest n s = s := by
  cases rest with
  | nil => rfl
  | cons p rest => rw [spawnAll_cons, if_pos (by simp [spStops, hx, hj, hbad])]

/-- **C16_iterations** — `--repeat`: an iteration that ended with `shouldStop` is the last one. -/
theorem C16_iterations (w : World) (o : Opts) (l : Nat) (tests : List Proto.TestDef) (n : Nat) (s : PS)
    (hstop : (runTests (resultCfg w o l) tests {}).shouldStop = true)
    (hok : (runTests (resultCfg w o l) tests {}).aborted = false)
    (hint : (runTests (resultCfg w o l) tests {}).interrupted = false) :
    runIterations w o l tests (n + 1) s = runIterations w o l tests 1 s := by
  simp [runIterations, hstop, hok, hint]

end Ztr.Runner
