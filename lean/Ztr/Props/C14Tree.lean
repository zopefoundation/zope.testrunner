import Ztr.Props.C14
/-! # C14 — independence of the file system's enumeration order, as one statement over whole trees -/
namespace Ztr.Discovery
open Ztr.Bytecode

/-- two directory trees that differ only in the order in which entries are enumerated, at any depth -/
inductive TreeEq : Tree → Tree → Prop
  | refl (t : Tree) : TreeEq t t
  | files {files files' : List Name} {subs : List (Name × Tree)} :
      files.Perm files' → TreeEq (.dir files subs) (.dir files' subs)
  | subs {files : List Name} {subs subs' : List (Name × Tree)} :
      subs.Perm subs' → TreeEq (.dir files subs) (.dir files subs')
  | child {files : List Name} {pre post : List (Name × Tree)} {n : Name} {t t' : Tree} :
      TreeEq t t' → TreeEq (.dir files (pre ++ (n, t) :: post)) (.dir files (pre ++ (n, t') :: post))
  | trans {a b c : Tree} : TreeEq a b → TreeEq b c → TreeEq a c

/-- sub-directory names are distinct in every directory (a file system guarantees it) -/
inductive WellNamed : Tree → Prop
  | dir {files : List Name} {subs : List (Name × Tree)} :
      (subs.map (·.1)).Nodup → (∀ p ∈ subs, WellNamed p.2) → WellNamed (.dir files subs)

theorem WellNamed.nodup {files : List Name} {subs : List (Name × Tree)} (h : WellNamed (.dir files subs)) :
    (subs.map (·.1)).Nodup := by cases h; assumption

theorem WellNamed.sub {files : List Name} {subs : List (Name × Tree)} (h : WellNamed (.dir files subs)) :
    ∀ p ∈ subs, WellNamed p.2 := by cases h; assumption

theorem TreeEq.wellNamed {t t' : Tree} (h : TreeEq t t') : WellNamed t → WellNamed t' := by
  induction h with
  | refl _ => exact id
  | files _ => intro hw; exact WellNamed.dir hw.nodup hw.sub
  | subs hp =>
    intro hw
    exact WellNamed.dir ((hp.map (·.1)).nodup_iff.1 hw.nodup) (fun p hp' => hw.sub p (hp.mem_iff.2 hp'))
  | @child files pre post n t t' _ ih =>
    intro hw
    refine WellNamed.dir ?_ ?_
    · have := hw.nodup; simpa using this
    · obtain ⟨h1, h2⟩ := List.forall_mem_append.1 hw.sub
      obtain ⟨h3, h4⟩ := List.forall_mem_cons.1 h2
      exact List.forall_mem_append.2 ⟨h1, List.forall_mem_cons.2 ⟨ih h3, h4⟩⟩
  | trans _ _ ih1 ih2 => exact fun hw => ih2 (ih1 hw)

/-- **C14_enum_independent** — the files discovered under a directory, and their order, do not depend on
the order in which the file system enumerates files and sub-directories at any depth. -/
theorem C14_enum_independent (e : Env) {t t' : Tree} (h : TreeEq t t') :
    WellNamed t → ∀ base, findIn e base t = findIn e base t' := by
  induction h with
  | refl _ => intro _ _; rfl
  | files hp =>
    intro _ base
    simp only [findIn]
    rw [C14_enum_independent_files e base hp]
  | subs hp => intro hw base; exact C14_enum_independent_dirs e base _ hp hw.nodup
  | @child files pre post n t t' _ ih =>
    intro hw base
    simp only [findIn]
    rw [findSubs_map, findSubs_map]
    simp only [List.map_append, List.map_cons]
    rw [ih (hw.sub (n, t) (by simp)) n]
  | trans h1 _ ih1 ih2 => intro hw base; rw [ih1 hw base, ih2 (h1.wellNamed hw) base]

/-- the same search paths over trees that differ only in enumeration order -/
inductive RootsEq : List (List Name × Tree) → List (List Name × Tree) → Prop
  | nil : RootsEq [] []
  | cons {r r' : List Name × Tree} {rs rs' : List (List Name × Tree)} :
      (r.1 = r'.1 ∧ WellNamed r.2 ∧ TreeEq r.2 r'.2) → RootsEq rs rs' → RootsEq (r :: rs) (r' :: rs')

/-- the same for a whole discovery over several search paths -/
theorem C14_enum_independent_roots (e : Env) (roots roots' : List (List Name × Tree))
    (h : RootsEq roots roots') :
    findTestFiles e roots = findTestFiles e roots' := by
  unfold findTestFiles
  congr 1
  induction h with
  | nil => rfl
  | @cons r r' rs rs' hr _ ih =>
    obtain ⟨h1, h2, h3⟩ := hr
    simp only [List.flatMap_cons]
    rw [ih, C14_enum_independent e h3 h2, h1]

/-- a nested tree whose entries are enumerated in two different orders at two depths -/
example : TreeEq
    (.dir [strName "b.py", strName "a.py"] [(strName "y", .dir [] []), (strName "x", .dir [strName "t.py", strName "s.py"] [])])
    (.dir [strName "a.py", strName "b.py"] [(strName "x", .dir [strName "s.py", strName "t.py"] []), (strName "y", .dir [] [])]) := by
  refine TreeEq.trans (TreeEq.files (List.Perm.swap _ _ _)) (TreeEq.trans (TreeEq.subs (List.Perm.swap _ _ _)) ?_)
  exact TreeEq.child (pre := []) (TreeEq.files (List.Perm.swap _ _ _))

end Ztr.Discovery
