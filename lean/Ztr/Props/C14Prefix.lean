import Ztr.Props.C14
/-!
# C14 — a test file is a module of the longest search path above it

`find_suites` derives the dotted module name of a yielded file from `options.prefix` (the search paths, longest
first): the first search path that is a prefix of the file's path - component by component, not character by
character - and carries the package the file was yielded under.
-/
namespace Ztr.Discovery

open Ztr.Bytecode Ztr.PySort

abbrev Cand := List Name × List Name

def lenDesc (a b : Cand) : Bool := decide (b.1.length ≤ a.1.length)

theorem lenDesc_byKey : ByKey lenDesc (fun c : Cand => c.1.length) := (ByKey.asc _).flip

/-- the candidates of `moduleNamesWith`: search paths above the file that carry the package -/
def candsOf (roots : List (List Name × Tree)) (pkgs : List (List Name)) (pkg : List Name) (path : List Name) : List Cand :=
  ((roots.map (·.1)).zip pkgs).filter (fun rp => rp.1.isPrefixOf path && rp.1.length < path.length && rp.2 == pkg)

/-- the name a search path gives the file -/
def nameUnder (e : Env) (pkg : List Name) (path : List Name) (r : Cand) : Option (List Name) :=
  let rel := path.drop r.1.length
  match rel.getLast? with
  | none => none
  | some f => (stripPyExt e f).map (fun noext => pkg ++ rel.dropLast ++ [noext])

theorem moduleNamesWith_eq (e : Env) (roots : List (List Name × Tree)) (pkgs : List (List Name)) (pkg path : List Name) :
    moduleNamesWith e roots pkgs pkg path
      = (isort lenDesc (candsOf roots pkgs pkg path)).filterMap (nameUnder e pkg path) := rfl

/-- **C14_name_from_longest** — when the longest search path above the file gives it a name at all (the file has
a Python extension), that is the first name tried, and no search path above the file is longer. -/
theorem C14_name_from_longest (e : Env) (roots : List (List Name × Tree)) (pkgs : List (List Name))
    (pkg path : List Name) (r : Cand) (rest : List Cand)
    (hs : isort lenDesc (candsOf roots pkgs pkg path) = r :: rest) (m : List Name) (hm : nameUnder e pkg path r = some m) :
    (moduleNamesWith e roots pkgs pkg path).head? = some m ∧
    r ∈ candsOf roots pkgs pkg path ∧ r.1.isPrefixOf path = true ∧ r.2 = pkg ∧
    (∀ r' ∈ candsOf roots pkgs pkg path, r'.1.length ≤ r.1.length) := by
  have hmem : r ∈ candsOf roots pkgs pkg path :=
    (mem_isort lenDesc _ r).1 (hs ▸ List.mem_cons_self)
  have hprop := (List.mem_filter.1 hmem).2
  simp only [Bool.and_eq_true, beq_iff_eq] at hprop
  refine ⟨?_, hmem, hprop.1.1, hprop.2, fun r' hr' => ?_⟩
  · rw [moduleNamesWith_eq, hs, List.filterMap_cons, hm]
    rfl
  ·
    have hp := isort_pairwise lenDesc_byKey (candsOf roots pkgs pkg path)
    rw [hs] at hp
    rcases List.mem_cons.1 (hs ▸ (mem_isort lenDesc _ r').2 hr') with rfl | hin
    · exact Nat.le_refl _
    · exact of_decide_eq_true (List.rel_of_pairwise_cons hp hin)

/-- **C14_prefix_is_componentwise** — `…/src` is not above `…/srcx/tests.py`, although the strings begin alike. -/
theorem C14_prefix_is_componentwise :
    let src : Name := strName "src"
    let srcx : Name := strName "srcx"
    let t : Name := strName "tests.py"
    ([src] : List Name).isPrefixOf [srcx, t] = false ∧ ([src] : List Name).isPrefixOf [src, t] = true ∧
    src.isPrefixOf srcx = true := by
  decide

/-- **C14_order_of_paths_irrelevant** — sorting by length makes the name independent of the order in which the
search paths were given, as long as the search paths above the file have different lengths (different search
paths above one file always have). -/
theorem C14_order_of_paths_irrelevant (e : Env) (pkg path : List Name) {c1 c2 : List Cand} (hp : c1.Perm c2)
    (hd : ∀ a ∈ c1, ∀ b ∈ c1, a.1.length = b.1.length → a = b) :
    (isort lenDesc c1).filterMap (nameUnder e pkg path) = (isort lenDesc c2).filterMap (nameUnder e pkg path) := by
  rw [isort_perm_eq lenDesc_byKey hp hd]

end Ztr.Discovery
