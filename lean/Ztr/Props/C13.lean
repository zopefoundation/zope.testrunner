import Ztr.Props.C05
/-! # C13 — buffered output is attributed correctly; std streams are always restored -/
namespace Ztr.Result
open Ztr.Proto

/-- **C13_restored_between_tests** — whatever sequence of outcomes occurred, after every test (and so
between tests and after the run) the std streams are the original ones, and every per-test layer
hook ran with the original streams. -/
theorem C13_restored_between_tests (c : Cfg) (ts : List TestDef) :
    (runTests c ts {}).captured = false ∧ HooksOrig (runTests c ts {}).evs := by
  have h := runTests_between c ts {} between_init (List.forall_mem_nil _)
  exact ⟨h.1.captured, h.2⟩

/-- **C13_never_replaced** — without `--buffer` no operation ever installs the capture buffers. -/
theorem C13_never_replaced (c : Cfg) (t : TestDef) (s : RS) (op : Op) (hb : c.buffer = false)
    (hs : s.captured = false) : (step c t s op).captured = false :=
  capOk_step c t s op (fun _ => hs) hb

/-- tokens that reached the output (raw, or inside a failure/error report), with the test they are
attributed to -/
def shown : List REv → List (Nat × Nat)
  | [] => []
  | .leak t tok :: r => (t, tok) :: shown r
  | .report t _ toks :: r => toks.map (fun k => (t, k)) ++ shown r
  | _ :: r => shown r

theorem shown_append (a b : List REv) : shown (a ++ b) = shown a ++ shown b := by
  induction a with
  | nil => rfl
  | cons e r ih => cases e <;> simp [shown, ih]

theorem shown_quiet {new : List REv} (evs : List REv) (h : shown new = []) : shown (evs ++ new) = shown evs := by
  rw [shown_append, h, List.append_nil]

theorem shown_map {α : Type} (g : α → REv) (h : ∀ x, shown [g x] = []) (l : List α) : shown (l.map g) = [] := by
  induction l with
  | nil => rfl
  | cons x xs ih => rw [List.map_cons, ← List.singleton_append, shown_append, h, ih]; rfl

theorem shown_enter (c : Cfg) (t : TestDef) (s : RS) : shown (enter c t s).evs = shown s.evs := by
  show shown (s.evs ++ _ ++ _) = _
  rw [shown_quiet _ (shown_map _ (fun _ => rfl) _), shown_quiet _ rfl]

theorem shown_leave (c : Cfg) (t : TestDef) (i : Bool) (x : RS) : shown (leave c t i x).evs = shown x.evs := by
  show shown (x.evs ++ _ ++ _) = _
  rw [shown_quiet _ rfl, shown_quiet _ (shown_map _ (fun _ => rfl) _)]

theorem shown_leaks (t : Nat) (ws : List (Bool × Nat)) :
    shown (ws.map (fun w => REv.leak t w.2)) = ws.map (fun w => (t, w.2)) := by
  induction ws with
  | nil => rfl
  | cons x xs ih => simp [shown, ih]

theorem step_streams {P : (captured : Bool) → (buf : List Nat) → (visible : List (Nat × Nat)) → Prop}
    {c : Cfg} {t : TestDef} {s : RS} {op : Op} (hr : Running s) (hc : CapOk c s) (hop : Mid op ∨ Final op)
    (held : ∀ ph ws, op = .code ph ws → s.captured = true → P true (s.buf ++ ws.map (·.2)) (shown s.evs))
    (leaked : ∀ ph ws, op = .code ph ws → s.captured = false →
      P false s.buf (shown s.evs ++ ws.map (fun w => (t.id, w.2))))
    (closed : op = .addSuccess ∨ op = .addExpectedFailure →
      P false (if s.captured then [] else s.buf) (shown s.evs))
    (kept : op = .addSkip ∨ op = .addSubSkip ∨ op = .addSubTest none → P s.captured s.buf (shown s.evs))
    (failed : IsBadOp op → P false (if s.captured then [] else s.buf)
      (shown s.evs ++ (if s.captured then s.buf else []).map (fun k => (t.id, k)))) :
    P (step c t s op).captured (step c t s op).buf (shown (step c t s op).evs) := by
  refine step_running hr hop (held := ?held) (leaked := ?leaked) (passed := ?passed) (skip := ?skip)
    (subOk := fun h => kept (Or.inr (Or.inr h))) (bad := ?bad)
  case held =>
    intro ph ws hop hcap
    show P s.captured _ (shown (s.evs ++ [_]))
    rw [shown_quiet _ rfl, hcap]
    exact held ph ws hop hcap
  case leaked =>
    intro ph ws hop hcap
    show P s.captured s.buf (shown (s.evs ++ [_] ++ _))
    rw [shown_append, shown_quiet _ rfl, shown_leaks, hcap]
    exact leaked ph ws hop hcap
  case passed =>
    intro h
    rw [restoreStreams_capOk hc]
    show P false _ (shown (s.evs ++ [_]))
    rw [shown_quiet _ rfl]
    exact closed h
  case skip =>
    intro h
    show P s.captured s.buf (shown (s.evs ++ [_]))
    rw [shown_quiet _ rfl]
    exact kept (h.elim Or.inl fun h => Or.inr (Or.inl h))
  case bad =>
    intro b hb
    rw [bad_eq, restoreStreams_capOk hc]
    show P false _ (shown (s.evs ++ [.report t.id b (if s.captured then s.buf else [])]))
    rw [shown_append]
    simp only [shown, List.append_nil]
    exact failed (isBadOp_iff.2 ⟨b, hb⟩)

def writtenOp : Op → List Nat
  | .code _ ws => ws.map (·.2)
  | _ => []

def written (ops : List Op) : List Nat := ops.flatMap writtenOp

theorem written_cons (op : Op) (ops : List Op) : written (op :: ops) = writtenOp op ++ written ops := by
  simp [written]

theorem written_append (a b : List Op) : written (a ++ b) = written a ++ written b := by
  simp [written]

theorem writtenOp_nil {op : Op} (h : ∀ ph ws, op ≠ .code ph ws) : writtenOp op = [] := by
  cases op with
  | code ph ws => exact absurd rfl (h ph ws)
  | _ => rfl

theorem written_shape {ops mid : List Op} {fin : Option Op} {i : Bool} (h : Shape ops mid fin i) :
    written ops = written mid := by
  have hf : written fin.toList = [] := by
    cases fin with
    | none => rfl
    | some f =>
      rw [Option.toList_some, written_cons, writtenOp_nil (by rintro ph ws rfl; exact (h.fin_ok _ rfl).elim)]
      rfl
  rw [h.eq, written_cons, written_append, written_append, hf]
  cases i <;> simp [written, writtenOp]

/-- what has reached the output, followed by what the installed capture buffers hold as it would be
shown under the name `t` -/
def withHeld (t : Nat) (x : RS) : List (Nat × Nat) :=
  shown x.evs ++ (if x.captured then x.buf else []).map (fun k => (t, k))

theorem withHeld_orig (t : Nat) {x : RS} (h : x.captured = false) : withHeld t x = shown x.evs := by
  simp [withHeld, h]

/-- The `Mid` calls `ops` lead from `x` to `x'`.  Nothing written is lost before the closing result: what is
visible or held grows by exactly what the calls write.  Once the original streams are back they stay, a recorded
failure bringing them back; until then nothing becomes visible. -/
structure Held (t : Nat) (x x' : RS) (ops : List Op) : Prop where
  grows : withHeld t x' = withHeld t x ++ (written ops).map (fun k => (t, k))
  orig : x'.captured = false ↔ x.captured = false ∨ ∃ op ∈ ops, IsBadOp op
  quiet : x'.captured = true → shown x'.evs = shown x.evs ∧ x.captured = true

theorem Held.refl (t : Nat) (x : RS) : Held t x x [] :=
  ⟨(List.append_nil _).symm, by simp, fun h => ⟨rfl, h⟩⟩

theorem Held.trans {t : Nat} {x y z : RS} {a b : List Op} (h1 : Held t x y a) (h2 : Held t y z b) :
    Held t x z (a ++ b) := by
  refine ⟨by rw [h2.grows, h1.grows, written_append, List.map_append, List.append_assoc], ?_, fun h => ?_⟩
  · rw [h2.orig, h1.orig, or_assoc]
    simp only [List.mem_append, or_and_right, exists_or]
  · exact ⟨(h2.quiet h).1.trans (h1.quiet (h2.quiet h).2).1, (h1.quiet (h2.quiet h).2).2⟩

theorem withHeld_step (c : Cfg) (t : TestDef) (s : RS) (op : Op) (hr : Running s) (hc : CapOk c s) (hm : Mid op) :
    Held t.id s (step c t s op) [op] := by
  suffices h : _ ∧ _ ∧ _ from ⟨h.1, h.2.1, h.2.2⟩
  rw [show written [op] = writtenOp op from List.append_nil _, show (∃ o ∈ [op], IsBadOp o) ↔ IsBadOp op by simp]
  refine step_streams (P := fun cap buf sh => sh ++ (if cap then buf else []).map (fun k => (t.id, k)) = _ ∧
    (cap = false ↔ _) ∧ (cap = true → sh = _ ∧ _)) hr hc (Or.inl hm) (held := ?held) (leaked := ?leaked)
    (closed := ?closed) (kept := ?kept) (failed := fun hb => ⟨?failed, ⟨fun _ => Or.inr hb, fun _ => rfl⟩, nofun⟩)
  case held =>
    rintro ph ws rfl hcap
    exact ⟨by simp [withHeld, hcap, writtenOp],
      ⟨nofun, fun h => h.elim (fun h => absurd (hcap.symm.trans h) nofun) False.elim⟩, fun _ => ⟨rfl, hcap⟩⟩
  case leaked =>
    rintro ph ws rfl hcap
    exact ⟨by simp [withHeld, hcap, writtenOp], ⟨fun _ => Or.inl hcap, fun _ => rfl⟩, nofun⟩
  case closed => rintro (rfl | rfl) <;> exact hm.elim
  case kept =>
    rintro (rfl | rfl | rfl) <;>
      exact ⟨(List.append_nil _).symm, ⟨Or.inl, fun h => h.elim id False.elim⟩, fun h => ⟨rfl, h⟩⟩
  case failed =>
    rw [writtenOp_nil (by rintro ph ws rfl; exact hb.elim), withHeld]
    cases s.captured <;> simp

theorem withHeld_foldl (c : Cfg) (t : TestDef) : ∀ (ops : List Op) (x : RS), Running x → CapOk c x →
    (∀ op ∈ ops, Mid op) → Held t.id x (ops.foldl (step c t) x) ops
  | [], x, _, _, _ => .refl _ x
  | op :: ops, x, hr, hc, hm =>
    have hop := hm op (List.mem_cons_self ..)
    (withHeld_step c t x op hr hc hop).trans (withHeld_foldl c t ops _
      (hr.of_ext (ext_step_running c t x op hr (Or.inl hop))) (capOk_step c t x op hc)
      fun o ho => hm o (List.mem_cons_of_mem _ ho))

theorem final_shown (c : Cfg) (t : TestDef) (x : RS) (fin : Option Op) (hr : Running x) (hc : CapOk c x)
    (hf : ∀ f ∈ fin, Final f) :
    (shown (fin.toList.foldl (step c t) x).evs = shown x.evs ∧ ∀ f ∈ fin, ¬ IsBadOp f) ∨
    (shown (fin.toList.foldl (step c t) x).evs = withHeld t.id x ∧ ∃ f ∈ fin, IsBadOp f) := by
  cases fin with
  | none => exact Or.inl ⟨rfl, nofun⟩
  | some f =>
    have hf := hf f rfl
    refine step_streams (P := fun _ _ sh => (sh = _ ∧ _) ∨ (sh = _ ∧ _)) hr hc (Or.inr hf) (held := ?held)
      (leaked := ?leaked) (closed := ?closed) (kept := ?kept) (failed := fun hb => Or.inr ⟨rfl, f, rfl, hb⟩)
    case held | leaked =>
      rintro ph ws rfl
      exact hf.elim
    case closed =>
      refine fun h => Or.inl ⟨rfl, fun f' hf' => ?_⟩
      cases hf'
      rcases h with rfl | rfl <;> exact id
    case kept => rintro (rfl | rfl | rfl) <;> exact hf.elim

theorem calls_shown (c : Cfg) (t : TestDef) (x0 : RS) (mid : List Op) (fin : Option Op) (hr : Running x0)
    (hc : CapOk c x0) (hm : ∀ op ∈ mid, Mid op) (hf : ∀ f ∈ fin, Final f) :
    (shown ((mid ++ fin.toList).foldl (step c t) x0).evs = shown x0.evs ∧ x0.captured = true ∧
        ∀ op ∈ mid ++ fin.toList, ¬ IsBadOp op) ∨
    (shown ((mid ++ fin.toList).foldl (step c t) x0).evs = withHeld t.id x0 ++ (written mid).map (fun k => (t.id, k)) ∧
        (x0.captured = false ∨ ∃ op ∈ mid ++ fin.toList, IsBadOp op)) := by
  obtain ⟨hr2, hc2⟩ := foldl_running' c t (fun op h => Or.inl (hm op h)) hr hc
  have held := withHeld_foldl c t mid _ hr hc hm
  rw [List.foldl_append, ← held.grows]
  generalize mid.foldl (step c t) x0 = x at *
  rcases final_shown c t x fin hr2 hc2 hf with ⟨hs, hnb⟩ | ⟨hs, f, hf, hb⟩
  · rw [hs]
    cases hx : x.captured
    · -- the original streams are back already: what is visible or held is visible
      exact Or.inr ⟨(withHeld_orig t.id hx).symm, (held.orig.1 hx).imp_right fun ⟨op, ho, hb⟩ =>
        ⟨op, List.mem_append_left _ ho, hb⟩⟩
    · -- all is still held, and dropped when the test is left
      refine Or.inl ⟨(held.quiet hx).1, (held.quiet hx).2, fun op ho hb => ?_⟩
      rcases List.mem_append.1 ho with h | h
      · exact absurd (held.orig.2 (Or.inr ⟨op, h, hb⟩)) (by rw [hx]; nofun)
      · exact hnb op (Option.mem_toList.1 h) hb
  · -- the closing result reports what is held
    exact Or.inr ⟨hs, Or.inr ⟨f, List.mem_append_right _ (Option.mem_toList.2 hf), hb⟩⟩

/-- **All or nothing.**  Of what a test writes, in any phase, either nothing becomes visible — under `--buffer`,
when its calls record no failure and no error — or all of it, in the order written and under the test's own name
(behind what the buffers still held when it started): inside the first report what was captured until then, raw
what it writes afterwards. -/
theorem runTest_shown (c : Cfg) (t : TestDef) (s : RS) (hbt : Between s) :
    (shown (runTest c s t).evs = shown s.evs ∧ c.buffer = true ∧ ∀ op ∈ Proto.run t, ¬ IsBadOp op) ∨
    (shown (runTest c s t).evs = withHeld t.id (enter c t s) ++ (written (Proto.run t)).map (fun k => (t.id, k)) ∧
      (c.buffer = false ∨ ∃ op ∈ Proto.run t, IsBadOp op)) := by
  cases hd : t.decoSkip
  · obtain ⟨mid, fin, i, sh, heq⟩ := runTest_window c t s hbt hd
    have hecap : (enter c t s).captured = c.buffer := by simp [enter, hd]
    rw [heq, shown_leave, written_shape sh, ← hecap]
    rcases calls_shown c t (enter c t s) mid fin (running_enter c t hbt) (capOk_enter c t s) sh.mid_ok sh.fin_ok
      with ⟨h, hcap, hq⟩ | ⟨h, hq⟩
    · exact Or.inl ⟨h.trans (shown_enter c t s), hcap, fun op ho hb => hq op (sh.mem ho hb.mid_or_final) hb⟩
    · exact Or.inr ⟨h, hq.imp_right fun ⟨op, ho, hb⟩ => ⟨op, sh.mem_ops ho, hb⟩⟩
  · -- a test skipped by a decorator runs no code
    have hs : shown (runTest c s t).evs = shown s.evs := by
      rw [runTest_deco c t s hbt hd, shown_leave]
      show shown ((enter c t s).evs ++ [.skipped t.id]) = _
      rw [shown_quiet _ rfl, shown_enter]
    have hrun := run_decoSkip t hd
    cases hb : c.buffer
    · refine Or.inr ⟨?_, Or.inl rfl⟩
      rw [hs, hrun, withHeld_orig t.id (by simp [enter, hd]), shown_enter]
      exact (List.append_nil _).symm
    · exact Or.inl ⟨hs, rfl, hrun ▸ List.forall_mem_cons.2 ⟨id, List.forall_mem_singleton.2 id⟩⟩

/-- **C13_quiet_when_ok** — with `--buffer`, a test whose unittest call sequence records no failure
and no error (passing, skipped in any phase, expected failure) contributes nothing to the output:
whatever it writes, in whatever phase. -/
theorem C13_quiet_when_ok (c : Cfg) (t : TestDef) (s : RS) (hb : c.buffer = true) (hbt : Between s)
    (hq : ∀ op ∈ Proto.run t, ¬ IsBadOp op) : shown (runTest c s t).evs = shown s.evs := by
  rcases runTest_shown c t s hbt with ⟨h, -⟩ | ⟨-, h | ⟨op, ho, hbad⟩⟩
  · exact h
  · exact absurd (hb.symm.trans h) nofun
  · exact absurd hbad (hq op ho)

end Ztr.Result
