import Ztr.Props.C10
import Ztr.Props.C03
import Ztr.Lemmas.Runner
/-! # C01 — tests run with exactly their layer stack set up; layers nest like a stack

The model (`Model/Runner`) carries a ghost log: every event together with the content of
`setup_layers` at the moment it is emitted (`PS.glog`, never read by the model).  The theorems below
are about *every* event of *every* process (`o.resume` arbitrary: parent, resumed child, `-j` child)
for every layer graph, test assignment, fault oracle and option set.  The guards and the balance are read
off one invariant (`Inv`, `inv_finalState`); `C01_all_torn_down`, `C01_frozen` and `C01_rest_in_children` are
facts about the loops alone and need neither the invariant nor a well-founded graph. -/
namespace Ztr.Runner
open Ztr.Layers

def BaseClosed (G : Graph) (S : List Nat) : Prop := ∀ l ∈ S, ∀ b ∈ G.bases l, b ∈ S

/-- the guard every event must satisfy with respect to the `setup_layers` it was emitted under -/
def EvOk (G : Graph) : Ev × Snap → Prop
  | (.setUp l _, g) => l ∉ g.setup ∧ ∀ b ∈ G.bases l, b ∈ g.setup
  | (.tearDown l _, g) => l ∈ g.setup ∧ ∀ d ∈ g.setup, d ≠ l → l ∉ closure G d
  | (.test _, g) => ∃ l, g.layer = some l ∧ ∀ x, x ∈ g.setup ↔ x ∈ closure G l
  | _ => True

def countSetUpOk (l : Nat) : List Ev → Nat
  | [] => 0
  | .setUp l' true :: r => (if l' = l then 1 else 0) + countSetUpOk l r
  | _ :: r => countSetUpOk l r

/-- the invariant, as a predicate on the three components it reads -/
structure Inv' (w : World) (setup : List Nat) (trace : List Ev) (glog : List (Ev × Snap)) : Prop where
  nodup : setup.Nodup
  closed : BaseClosed w.graph setup
  log : ∀ p ∈ glog, EvOk w.graph p
  erase : glog.map (·.1) = trace
  balance : ∀ l, (w.info l).hasSetUp = true → (w.info l).hasTearDown = true →
    countSetUpOk l trace = countTearDown l trace + (if l ∈ setup then 1 else 0)

def Inv (w : World) (s : PS) : Prop := Inv' w s.setup s.trace s.glog

theorem countTearDown_append (l : Nat) (a b : List Ev) :
    countTearDown l (a ++ b) = countTearDown l a + countTearDown l b := by
  induction a with
  | nil => simp [countTearDown]
  | cons e a ih => cases e <;> simp [countTearDown, ih] <;> omega

theorem countSetUpOk_append (l : Nat) (a b : List Ev) :
    countSetUpOk l (a ++ b) = countSetUpOk l a + countSetUpOk l b := by
  induction a with
  | nil => simp [countSetUpOk]
  | cons e a ih =>
    cases e with
    | setUp l' ok => cases ok <;> simp [countSetUpOk, ih] <;> omega
    | _ => simp [countSetUpOk, ih]

theorem countSetUp_append (l : Nat) (a b : List Ev) :
    countSetUp l (a ++ b) = countSetUp l a + countSetUp l b := by
  induction a with
  | nil => simp [countSetUp]
  | cons e a ih => cases e <;> simp [countSetUp, ih] <;> omega

theorem base_mem_closure {G : Graph} (hwf : WF G) {l b : Nat} (hb : b ∈ G.bases l) : b ∈ closure G l :=
  (mem_closure hwf).2 (Or.inr ⟨b, hb, self_mem_gather G b⟩)

theorem base_ne {G : Graph} (hwf : WF G) {l b : Nat} (hb : b ∈ G.bases l) : b ≠ l := by
  have := hwf l b hb; omega

theorem closure_subset_of_closed {G : Graph} (hwf : WF G) {S : List Nat} (hS : BaseClosed G S) :
    ∀ l, l ∈ S → ∀ x ∈ closure G l, x ∈ S := by
  intro l
  induction l using Nat.strongRecOn with
  | _ l ih =>
    intro hl x hx
    rcases (mem_closure hwf).1 hx with rfl | ⟨b, hb, hxb⟩
    · exact hl
    · exact ih b (hwf l b hb) (hS l hl b hb) x hxb

theorem closure_closed {G : Graph} (hwf : WF G) (l : Nat) : BaseClosed G (closure G l) := by
  intro x hx b hb
  exact closure_trans hwf l x b hx (base_mem_closure hwf hb)

theorem mem_closure_lt_or_eq {G : Graph} (hwf : WF G) {l x : Nat} (h : x ∈ closure G l) : x = l ∨ x < l := by
  unfold closure at h
  rw [gather_eq hwf l] at h
  rcases List.mem_cons.1 h with rfl | h
  · exact Or.inl rfl
  · exact Or.inr (lt_of_mem_gather_tail hwf l x h)

/-- what has to be checked for a step that logs `new` and leaves `S'` set up -/
theorem Inv'.step {w : World} {S S' : List Nat} {τ τ' : List Ev} {γ γ' : List (Ev × Snap)} (h : Inv' w S τ γ)
    (new : List (Ev × Snap)) (hnd : S'.Nodup) (hcl : BaseClosed w.graph S') (hok : ∀ p ∈ new, EvOk w.graph p)
    (hbal : ∀ l, (w.info l).hasSetUp = true → (w.info l).hasTearDown = true →
      countSetUpOk l (new.map (·.1)) + (if l ∈ S then 1 else 0) =
        countTearDown l (new.map (·.1)) + (if l ∈ S' then 1 else 0))
    (hτ : τ' = τ ++ new.map (·.1)) (hγ : γ' = γ ++ new) : Inv' w S' τ' γ' := by
  subst hτ hγ
  refine ⟨hnd, hcl, fun p hp => (List.mem_append.1 hp).elim (h.log p) (hok p), ?_, fun l a b => ?_⟩
  · rw [List.map_append, h.erase]
  · have := hbal l a b
    rw [countSetUpOk_append, countTearDown_append, h.balance l a b]
    omega

theorem inv_emit_neutral {w : World} {s : PS} (h : Inv w s) (e : Ev)
    (hok : EvOk w.graph (e, { setup := s.setup }))
    (h1 : ∀ l, countSetUpOk l [e] = 0) (h2 : ∀ l, countTearDown l [e] = 0) : Inv w (s.emit e) :=
  h.step [(e, { setup := s.setup })] h.nodup h.closed (by simpa using hok)
    (fun l _ _ => by
      show countSetUpOk l [e] + _ = countTearDown l [e] + _
      rw [h1, h2]
      rfl) rfl rfl

/-- precondition on the order in which layers are torn down, relative to what is set up -/
structure TDPre (G : Graph) (order S : List Nat) : Prop where
  nodup : order.Nodup
  sub : ∀ x ∈ order, x ∈ S
  derivedFirst : ∀ l ∈ order, ∀ d ∈ S, d ≠ l → l ∈ closure G d → [d, l].Sublist order

theorem tdpre_head {G : Graph} {l : Nat} {ls S : List Nat} (h : TDPre G (l :: ls) S) :
    l ∈ S ∧ ∀ d ∈ S, d ≠ l → l ∉ closure G d := by
  refine ⟨h.sub l (by simp), ?_⟩
  intro d hd hne hc
  have hsub := h.derivedFirst l (by simp) d hd hne hc
  have hnd := h.nodup
  rw [List.nodup_cons] at hnd
  cases hsub with
  | cons _ h' => exact hnd.1 ((List.Sublist.subset h') (by simp))
  | cons_cons _ _ => exact hne rfl

theorem tdpre_tail {G : Graph} {l : Nat} {ls S : List Nat} (h : TDPre G (l :: ls) S) :
    TDPre G ls (S.filter (· != l)) := by
  have hnd := h.nodup
  rw [List.nodup_cons] at hnd
  refine ⟨hnd.2, ?_, ?_⟩
  · intro x hx
    have : x ≠ l := fun e => hnd.1 (e ▸ hx)
    simp [h.sub x (by simp [hx]), this]
  · intro l' hl' d hd hne hc
    have hd' := List.mem_filter.1 hd
    have hdl : d ≠ l := by simpa using hd'.2
    have hsub := h.derivedFirst l' (by simp [hl']) d hd'.1 hne hc
    cases hsub with
    | cons _ h' => exact h'
    | cons_cons _ _ => exact absurd rfl hdl

theorem closed_filter {G : Graph} (hwf : WF G) {S : List Nat} {l : Nat} (hS : BaseClosed G S)
    (hl : ∀ d ∈ S, d ≠ l → l ∉ closure G d) : BaseClosed G (S.filter (· != l)) := by
  intro x hx b hb
  have hx' := List.mem_filter.1 hx
  have hxl : x ≠ l := by simpa using hx'.2
  have hbS := hS x hx'.1 b hb
  have hbl : b ≠ l := by
    intro e
    subst e
    exact hl x hx'.1 hxl (base_mem_closure hwf hb)
  simp [hbS, hbl]

theorem inv_tdOne {w : World} (hwf : WF w.graph) {l : Nat} {s : PS} (h : Inv w s)
    (hl : l ∈ s.setup) (hd : ∀ d ∈ s.setup, d ≠ l → l ∉ closure w.graph d) : Inv w (tdOne w l s) := by
  have hnd : (s.setup.filter (· != l)).Nodup := h.nodup.sublist List.filter_sublist
  have hcl := closed_filter hwf h.closed hd
  unfold tdOne
  by_cases ht : (w.info l).hasTearDown = true
  · simp only [ht, if_true]
    -- the error record does not matter
    have key := h.step [(.tearDown l (w.tearDownResult l (countTearDown l s.trace)), { setup := s.setup })]
      hnd hcl (by simpa using ⟨hl, hd⟩) (fun x _ _ => by
        by_cases hx : x = l
        · subst hx; simp [countSetUpOk, countTearDown, hl]
        · simp [countSetUpOk, countTearDown, hx, Ne.symm hx]) rfl rfl
    split <;> exact key
  · simp only [ht, Bool.false_eq_true, if_false]
    refine h.step [] hnd hcl (by simp) (fun x _ b => ?_) (by simp) (by simp)
    have hx : x ≠ l := fun e => ht (e ▸ b)
    simp [countSetUpOk, countTearDown, hx]

theorem inv_tearDownList {w : World} (hwf : WF w.graph) (opt : Bool) :
    ∀ (order : List Nat) (s : PS), Inv w s → TDPre w.graph order s.setup → Inv w (tearDownList w opt order s).1
  | [], s, h, _ => h
  | l :: ls, s, h, hp => by
    rw [tearDownList_cons]
    obtain ⟨hl, hd⟩ := tdpre_head hp
    have h1 := inv_tdOne hwf h hl hd
    split
    · exact h1
    · exact inv_tearDownList hwf opt ls (tdOne w l s) h1 (by rw [tdOne_setup]; exact tdpre_tail hp)

theorem tdpre_unneeded {G : Graph} (hwf : WF G) {S needed : List Nat}
    (hN : ∀ d ∈ needed, ∀ x ∈ closure G d, x ∈ needed) :
    TDPre G (orderByBases G (S.filter (fun l => !needed.contains l))).reverse S := by
  have honce := C10_once G (S.filter (fun l => !needed.contains l))
  refine ⟨List.pairwise_reverse.2 (honce.1.imp Ne.symm), ?_, ?_⟩
  · intro x hx
    have := (honce.2 x).1 (List.mem_reverse.1 hx)
    exact (List.mem_filter.1 this).1
  · intro l hl d hd hne hc
    have hlU := (honce.2 l).1 (List.mem_reverse.1 hl)
    have hlN : l ∉ needed := by simpa using (List.mem_filter.1 hlU).2
    have hdN : d ∉ needed := fun hdn => hlN (hN d hdn l hc)
    have hdU : d ∈ S.filter (fun l => !needed.contains l) := by simp [hd, hdN]
    have := C10_bases_first hwf (S.filter (fun l => !needed.contains l)) hc (Ne.symm hne) hlU hdU
    have h2 := this.reverse
    simpa using h2

theorem inv_tearDownUnneeded {w : World} (hwf : WF w.graph) (needed : List Nat) (opt : Bool) {s : PS}
    (h : Inv w s) (hN : ∀ d ∈ needed, ∀ x ∈ closure w.graph d, x ∈ needed) :
    Inv w (tearDownUnneeded w needed opt s).1 :=
  inv_tearDownList hwf opt _ s h (tdpre_unneeded hwf (S := s.setup) hN)

theorem tearDownUnneeded_setup (w : World) (needed : List Nat) (opt : Bool) (s : PS)
    (hf : (tearDownUnneeded w needed opt s).2 = false) (x : Nat) :
    x ∈ (tearDownUnneeded w needed opt s).1.setup ↔ x ∈ s.setup ∧ x ∈ needed := by
  unfold tearDownUnneeded at hf ⊢
  rw [tearDownList_setup w opt _ s hf x, List.mem_reverse,
    (C10_once w.graph (s.setup.filter (fun l => !needed.contains l))).2 x]
  simp only [List.mem_filter, Bool.not_eq_true', List.contains_eq_mem, decide_eq_false_iff_not]
  exact ⟨fun ⟨hx, hn⟩ => ⟨hx, Classical.byContradiction fun hnn => hn ⟨hx, hnn⟩⟩, fun ⟨hx, hn⟩ => ⟨hx, fun hh => hh.2 hn⟩⟩


theorem nodup_snoc {S : List Nat} {l : Nat} (hS : S.Nodup) (hl : l ∉ S) : (S ++ [l]).Nodup :=
  List.nodup_append.2 ⟨hS, List.pairwise_singleton _ l, fun _ ha _ hb e => hl (List.mem_singleton.1 hb ▸ e ▸ ha)⟩

theorem closed_snoc {G : Graph} {S : List Nat} {l : Nat} (hS : BaseClosed G S) (hb : ∀ b ∈ G.bases l, b ∈ S) :
    BaseClosed G (S ++ [l]) := fun x hx b hbx =>
  List.mem_append_left _ <| (List.mem_append.1 hx).elim (fun hx => hS x hx b hbx)
    (fun hx => hb b (List.mem_singleton.1 hx ▸ hbx))

theorem inv_mark {w : World} {s : PS} {l : Nat} (h : Inv w s) (hl : l ∉ s.setup)
    (hb : ∀ b ∈ w.graph.bases l, b ∈ s.setup) (hns : (w.info l).hasSetUp = false) :
    Inv w { s with setup := s.setup ++ [l] } := by
  refine h.step [] (nodup_snoc h.nodup hl) (closed_snoc h.closed hb) (by simp) (fun x a _ => ?_)
    (by simp) (by simp)
  have hx : x ≠ l := fun e => by rw [e, hns] at a; cases a
  simp [countSetUpOk, countTearDown, hx]

theorem inv_setUp_ok {w : World} {s : PS} {l : Nat} (h : Inv w s) (hl : l ∉ s.setup)
    (hb : ∀ b ∈ w.graph.bases l, b ∈ s.setup) :
    Inv w { (s.emit (.setUp l true)) with setup := s.setup ++ [l] } :=
  h.step [(.setUp l true, { setup := s.setup })] (nodup_snoc h.nodup hl) (closed_snoc h.closed hb)
    (by simpa using ⟨hl, hb⟩) (fun x _ _ => by
      by_cases hx : x = l
      · subst hx; simp [countSetUpOk, countTearDown, hl]
      · simp [countSetUpOk, countTearDown, hx, Ne.symm hx]) rfl rfl

/-- what `setup_layer` guarantees about `setup_layers` -/
structure SetupPost (w : World) (targets : List Nat) (s : PS) (r : PS × Bool) : Prop where
  inv : Inv w r.1
  mono : ∀ x ∈ s.setup, x ∈ r.1.setup
  within : ∀ x ∈ r.1.setup, x ∈ s.setup ∨ ∃ t ∈ targets, x ∈ closure w.graph t
  done : r.2 = true → ∀ t ∈ targets, t ∈ r.1.setup

theorem SetupPost.skip {w : World} {targets : List Nat} {s : PS} (h : Inv w s) (ht : ∀ t ∈ targets, t ∈ s.setup) :
    SetupPost w targets s (s, true) :=
  ⟨h, fun _ hx => hx, fun _ hx => Or.inl hx, fun _ => ht⟩

/-- the loop over the bases goes on after a base that could be set up … -/
theorem SetupPost.trans {w : World} {b : Nat} {bs : List Nat} {s : PS} {r1 r2 : PS × Bool}
    (p1 : SetupPost w [b] s r1) (hok : r1.2 = true) (p2 : SetupPost w bs r1.1 r2) : SetupPost w (b :: bs) s r2 := by
  refine ⟨p2.inv, fun x hx => p2.mono x (p1.mono x hx), fun x hx => ?_, fun hd t ht => ?_⟩
  · rcases p2.within x hx with h1 | ⟨t, ht, hxt⟩
    · rcases p1.within x h1 with h0 | ⟨t, ht, hxt⟩
      · exact Or.inl h0
      · exact Or.inr ⟨t, by rw [List.mem_singleton.1 ht]; simp, hxt⟩
    · exact Or.inr ⟨t, by simp [ht], hxt⟩
  · rcases List.mem_cons.1 ht with rfl | ht
    · exact p2.mono _ (p1.done hok _ (by simp))
    · exact p2.done hd t ht

/-- … and ends with one that could not -/
theorem SetupPost.fail {w : World} {b : Nat} {bs : List Nat} {s : PS} {r : PS × Bool}
    (p : SetupPost w [b] s r) (hr : r.2 = false) : SetupPost w (b :: bs) s r :=
  ⟨p.inv, p.mono, fun x hx => (p.within x hx).imp_right fun ⟨t, ht, hxt⟩ =>
    ⟨t, by rw [List.mem_singleton.1 ht]; simp, hxt⟩, fun hd => by rw [hr] at hd; cases hd⟩

/-- from the bases of `l` to `l`: the state `s'` reached after the loop over the bases has what that loop
left set up, with or without `l` -/
theorem SetupPost.lift {w : World} (hwf : WF w.graph) {l : Nat} {s s' : PS} {R : PS × Bool} {ok : Bool}
    (pb : SetupPost w (w.graph.bases l) s R) (hinv : Inv w s')
    (hsetup : s'.setup = R.1.setup ∨ s'.setup = R.1.setup ++ [l]) (hdone : ok = true → l ∈ s'.setup) :
    SetupPost w [l] s (s', ok) := by
  refine ⟨hinv, fun x hx => ?_, fun x hx => ?_, fun hd t ht => by rw [List.mem_singleton.1 ht]; exact hdone hd⟩
  · rcases hsetup with e | e <;> rw [e]
    · exact pb.mono x hx
    · exact List.mem_append_left _ (pb.mono x hx)
  · have : x ∈ R.1.setup ∨ x = l := by
      rcases hsetup with e | e <;> rw [e] at hx
      · exact Or.inl hx
      · simpa using hx
    rcases this with hx | rfl
    · rcases pb.within x hx with h0 | ⟨t, ht, hxt⟩
      · exact Or.inl h0
      · exact Or.inr ⟨l, by simp, closure_trans hwf l t x (base_mem_closure hwf ht) hxt⟩
    · exact Or.inr ⟨x, by simp, self_mem_gather _ _⟩

theorem SetupPost.suOne {w : World} (hwf : WF w.graph) {l : Nat} {s : PS} {R : PS × Bool}
    (pb : SetupPost w (w.graph.bases l) s R) (hok : R.2 = true) (hl : l ∉ R.1.setup) :
    SetupPost w [l] s (suOne w l R.1) := by
  have hb := pb.done hok
  unfold Runner.suOne
  split
  · cases hx : w.setUpRaises l (countSetUp l R.1.trace)
    · exact pb.lift hwf (inv_setUp_ok pb.inv hl hb) (Or.inr rfl) (fun _ => by simp)
    · exact pb.lift hwf (inv_emit_neutral pb.inv _ ⟨hl, hb⟩ (fun _ => rfl) (fun _ => rfl)) (Or.inl rfl) nofun
  · rename_i hs
    exact pb.lift hwf (inv_mark pb.inv hl hb (by simpa using hs)) (Or.inr rfl) (fun _ => by simp)

/-- induction on the fuel, with the loop over the bases inside -/
theorem post_setupLayerF {w : World} (hwf : WF w.graph) :
    ∀ (f l : Nat) (s : PS), l < f → Inv w s → SetupPost w [l] s (setupLayerF w f l s)
  | 0, _, _, h, _ => absurd h (Nat.not_lt_zero _)
  | f + 1, l, s, _, h => by
    have hbases : ∀ (bs : List Nat) (s : PS), (∀ b ∈ bs, b < f) → Inv w s →
        SetupPost w bs s (setupBases (setupLayerF w f) bs s) := by
      intro bs
      induction bs with
      | nil => exact fun s _ h => .skip h (by simp)
      | cons b bs ihb =>
        intro s hlt h
        have p1 := post_setupLayerF hwf f b s (hlt b (by simp)) h
        rw [setupBases]
        split
        · rename_i hr
          exact p1.trans hr (ihb _ (fun x hx => hlt x (by simp [hx])) p1.inv)
        · rename_i hr
          exact p1.fail (by simpa using hr)
    have pb := hbases (w.graph.bases l) s (fun b hb => by have := hwf l b hb; omega) h
    rw [setupLayerF_succ]
    split
    · rename_i hc
      exact .skip h (by simpa using hc)
    · rename_i hc
      split
      · rename_i hok
        -- what the loop over the bases may have added lies strictly below `l`
        refine pb.suOne hwf hok fun hx => ?_
        rcases pb.within l hx with h0 | ⟨t, ht, hxt⟩
        · exact hc (by simpa using h0)
        · have h1 := hwf l t ht
          rcases mem_closure_lt_or_eq hwf hxt with e | e <;> omega
      · rename_i hr
        exact pb.lift hwf pb.inv (Or.inl rfl) fun hd => absurd hd hr

theorem post_setupLayer {w : World} (hwf : WF w.graph) (l : Nat) (s : PS) (h : Inv w s) :
    SetupPost w [l] s (setupLayer w l s) :=
  post_setupLayerF hwf (l + 1) l s (by omega) h


theorem count_iterEvs (l : Nat) : ∀ {evs : List Ev},
    (∀ e ∈ evs, IsIter e) →
    countSetUpOk l evs = 0 ∧ countTearDown l evs = 0
  | [], _ => ⟨rfl, rfl⟩
  | e :: evs, h => by
    have ih := count_iterEvs l (evs := evs) (fun x hx => h x (by simp [hx]))
    rcases h e (by simp) with ⟨r, rfl⟩ | ⟨a, b, c, d, rfl⟩ <;> exact ih

theorem inv_runIterations {w : World} (o : Opts) (l : Nat) (tests : List Proto.TestDef) (n : Nat) {s : PS}
    (h : Inv w s) (hset : ∀ x, x ∈ s.setup ↔ x ∈ closure w.graph l) : Inv w (runIterations w o l tests n s) := by
  have he := runIterations_extends w o l tests n s
  have hk := layerDelta_trace w o l tests n
  unfold Inv
  rw [he.setup]
  refine h.step _ h.nodup h.closed (fun p hp => ?_) (fun x _ _ => ?_) ?_ (runIterations_glog w o l tests n s)
  · obtain ⟨e, he', rfl⟩ := List.mem_map.1 hp
    rcases hk e he' with ⟨r, rfl⟩ | ⟨a, b, c, d, rfl⟩
    · exact ⟨l, rfl, hset⟩
    · trivial
  · rw [map_fst_iterSnap, (count_iterEvs x hk).1, (count_iterEvs x hk).2]
  · rw [map_fst_iterSnap, he.trace]

theorem inv_rlHeader {w : World} (o : Opts) (l : Nat) {s : PS} (h : Inv w s) : Inv w (rlHeader o l s) := by
  unfold rlHeader
  split
  · exact h
  · exact inv_emit_neutral h _ trivial (fun _ => rfl) (fun _ => rfl)

-- from here on `run_layer`'s callees stay folded, as in `Lemmas/Runner` (where the reason is given)
attribute [local irreducible] runIterations setupLayer tearDownUnneeded

theorem inv_runLayer {w : World} (hwf : WF w.graph) (o : Opts) (l : Nat) (tests : List Proto.TestDef)
    {s : PS} (h : Inv w s) : Inv w (runLayer w o l tests s).1 := by
  have i1 : Inv w (rlTorn w o l s).1 := inv_tearDownUnneeded hwf (gather w.graph l) false (inv_rlHeader o l h)
    fun d hd x hx => closure_trans hwf l d x hd hx
  have ps : SetupPost w [l] (rlTorn w o l s).1 (rlReady w o l s, (setupLayer w l (rlTorn w o l s).1).2) :=
    post_setupLayer hwf l _ i1
  refine runLayer_cases w o l tests s (P := fun r => Inv w r.1) (fun _ => i1) (fun _ _ => ps.inv) fun hcan hok => ?_
  refine inv_runIterations o l tests (reps o) (s := { rlReady w o l s with ran := 0 }) ps.inv fun x => ⟨fun hx => ?_, ?_⟩
  · -- set up now: what the tear-downs left of the closure, and what `setup_layer` added inside it
    rcases ps.within x hx with h1 | ⟨t, ht, hxt⟩
    · exact ((tearDownUnneeded_setup w _ false _ hcan x).1 h1).2
    · rwa [List.mem_singleton.1 ht] at hxt
  · exact closure_subset_of_closed hwf ps.inv.closed l (ps.done hok l (by simp)) x

theorem inv_spawnAll {w : World} (o : Opts) (cb : Nat → Bool) :
    ∀ (rest : List (Nat × List Proto.TestDef)) (n : Nat) (s : PS), Inv w s → Inv w (spawnAll o cb rest n s)
  | [], _, s, h => h
  | (l, _) :: rest, n, s, h => by
    rw [spawnAll_cons]
    split
    · exact h
    · refine inv_spawnAll o cb rest _ _ ?_
      have := inv_emit_neutral h (.spawn l n) trivial (fun _ => rfl) (fun _ => rfl)
      unfold spOne
      split <;> exact this

theorem inv_finalState {w : World} (hwf : WF w.graph) (o : Opts) (cb : Nat → Bool) :
    Inv w (finalState w o cb) := by
  have h0 : Inv w {} := ⟨List.nodup_nil, fun _ h => by simp at h, fun _ h => by simp at h, rfl, fun _ _ _ => rfl⟩
  have hloop : Inv w (fsLoop w o).1 := by
    unfold fsLoop fsStart
    split
    · exact inv_emit_neutral h0 _ trivial (fun _ => rfl) (fun _ => rfl)
    · exact layerLoop_preserves _ (fun g _ _ h => inv_runLayer hwf o g.1 g.2 h) _ h0
  rw [finalState_eq]
  split
  · exact hloop
  · refine inv_tearDownUnneeded hwf [] true ?_ (fun d hd => by simp at hd)
    unfold fsSpawned
    split
    · exact inv_spawnAll o cb _ _ _ hloop
    · exact hloop

/-- **C01_events** — in every process (parent, resumed child, `-j` child), for every layer graph,
test assignment, fault oracle and option set: every event was emitted under a `setup_layers` that
satisfies its guard, and the ghost log is exactly the trace. -/
theorem C01_events (w : World) (hwf : WF w.graph) (o : Opts) (cb : Nat → Bool) :
    (∀ p ∈ (finalState w o cb).glog, EvOk w.graph p) ∧
    (finalState w o cb).glog.map (·.1) = (runProcess w o cb).trace :=
  ⟨(inv_finalState hwf o cb).log, (inv_finalState hwf o cb).erase⟩

/-- **C01_exact_stack** — whenever a test executes, the layers set up in that process are exactly the
test's layer and its transitive bases. -/
theorem C01_exact_stack (w : World) (hwf : WF w.graph) (o : Opts) (cb : Nat → Bool) (r : Result.REv) (g : Snap)
    (h : (Ev.test r, g) ∈ (finalState w o cb).glog) :
    ∃ l, g.layer = some l ∧ ∀ x, x ∈ g.setup ↔ x ∈ closure w.graph l :=
  (inv_finalState hwf o cb).log _ h

/-- **C01_setUp_guard** — a layer's `setUp` runs only while the layer is not set up and all of its
bases are. -/
theorem C01_setUp_guard (w : World) (hwf : WF w.graph) (o : Opts) (cb : Nat → Bool) (l : Nat) (ok : Bool) (g : Snap)
    (h : (Ev.setUp l ok, g) ∈ (finalState w o cb).glog) :
    l ∉ g.setup ∧ ∀ b ∈ w.graph.bases l, b ∈ g.setup :=
  (inv_finalState hwf o cb).log _ h

/-- **C01_tearDown_order** — a layer's `tearDown` runs only while it is set up and once every layer
derived from it has been torn down. -/
theorem C01_tearDown_order (w : World) (hwf : WF w.graph) (o : Opts) (cb : Nat → Bool) (l : Nat) (r : TD) (g : Snap)
    (h : (Ev.tearDown l r, g) ∈ (finalState w o cb).glog) :
    l ∈ g.setup ∧ ∀ d ∈ g.setup, d ≠ l → l ∉ closure w.graph d :=
  (inv_finalState hwf o cb).log _ h


/-- whatever the layer graph: the final tear-down goes through everything that is set up -/
theorem all_torn_down (w : World) (o : Opts) (cb : Nat → Bool)
    (hok : ((runProcess w o cb).aborted || (runProcess w o cb).interrupted) = false) :
    (runProcess w o cb).leftover = [] := by
  obtain ⟨_, hl, _⟩ := finalState_logs w o cb
  have hfl : ¬ ((fsLoop w o).1.aborted || (fsLoop w o).1.interrupted) = true := by
    rw [← hl.aborted, ← hl.interrupted]
    exact ne_true_of_eq_false hok
  show (finalState w o cb).setup = []
  rw [finalState_eq, if_neg hfl]
  refine List.eq_nil_iff_forall_not_mem.2 fun x hx => ?_
  have := (tearDownUnneeded_setup w [] true _ (tearDownUnneeded_optional w [] _) x).1 hx
  simp at this

/-- **C01_all_torn_down** — when the run ends (it was not aborted), nothing is left in
`setup_layers`: every layer that was set up has been through the tear-down loop. -/
theorem C01_all_torn_down (w : World) (hwf : WF w.graph) (o : Opts) (cb : Nat → Bool)
    (hok : ((runProcess w o cb).aborted || (runProcess w o cb).interrupted) = false) :
    (runProcess w o cb).leftover = [] :=
  all_torn_down w o cb hok

/-- **C01_balance** — … and for every layer (that has both hooks) the number of successful `setUp`
calls equals the number of `tearDown` attempts: tearDown is attempted exactly once per set-up. -/
theorem C01_balance (w : World) (hwf : WF w.graph) (o : Opts) (cb : Nat → Bool)
    (hok : ((runProcess w o cb).aborted || (runProcess w o cb).interrupted) = false)
    (l : Nat) (h1 : (w.info l).hasSetUp = true) (h2 : (w.info l).hasTearDown = true) :
    countSetUpOk l (runProcess w o cb).trace = countTearDown l (runProcess w o cb).trace := by
  have hb := (inv_finalState hwf o cb).balance l h1 h2
  rw [show (finalState w o cb).setup = [] from all_torn_down w o cb hok, if_neg List.not_mem_nil] at hb
  exact hb

/-- after a `tearDown` that raised NotImplementedError no `setUp` and no test event follows -/
def Frozen (τ : List Ev) : Prop :=
  ∀ pre e post, τ = pre ++ e :: post → isNI e = true → ∀ x ∈ post, isRun x = false

/-- `Frozen` pair by pair, the form in which it composes (`List.pairwise_append`): after `e`, `x` is in order -/
def NoRunAfter (e x : Ev) : Prop := isNI e = true → isRun x = false

theorem frozen_of_pairwise {τ : List Ev} (h : τ.Pairwise NoRunAfter) : Frozen τ := by
  rintro pre e post rfl hni x hx
  exact (List.pairwise_cons.1 (List.pairwise_append.1 h).2.1).1 x hx hni

theorem pairwise_of_noNI {τ : List Ev} (h : ∀ e ∈ τ, isNI e = false) : τ.Pairwise NoRunAfter :=
  List.pairwise_of_forall_mem_list fun e he _ _ hni => by rw [h e he] at hni; cases hni

theorem pairwise_append_quiet {τ evs : List Ev} (h : τ.Pairwise NoRunAfter) (he : ∀ x ∈ evs, isRun x = false) :
    (τ ++ evs).Pairwise NoRunAfter :=
  List.pairwise_append.2 ⟨h, List.pairwise_of_forall_mem_list fun _ _ x hx _ => he x hx, fun _ _ x hx _ => he x hx⟩

theorem frozen_layerLoop (w : World) (o : Opts) :
    ∀ (layers : List (Nat × List Proto.TestDef)) (s : PS), (∀ e ∈ s.trace, isNI e = false) →
      (o.resume.isSome = true → layers.length ≤ 1) → (layerLoop w o layers s).1.trace.Pairwise NoRunAfter
  | [], s, h, _ => pairwise_of_noNI h
  | (l, tests) :: rest, s, h, hone => by
    obtain ⟨new, hl⟩ := runLayer_logs w o l tests s
    have hnoni : (runLayer w o l tests s).2 = false → ∀ e ∈ (runLayer w o l tests s).1.trace, isNI e = false := by
      intro hc
      rw [hl.trace]
      exact List.forall_mem_append.2 ⟨h, List.forall_mem_map.2 (hl.noNI hc)⟩
    have hcase : (runLayer w o l tests s).1.trace.Pairwise NoRunAfter := by
      cases hc : (runLayer w o l tests s).2
      · exact pairwise_of_noNI (hnoni hc)
      · rw [hl.trace]
        exact pairwise_append_quiet (pairwise_of_noNI h) (List.forall_mem_map.2 (hl.quiet hc))
    refine layerLoop_cases w o l tests rest s (P := fun s' _ => s'.trace.Pairwise NoRunAfter) hcase (fun _ _ => hcase) (fun _ => hcase)
      fun hx => ?_
    have hrest : o.resume.isSome = true → rest.length ≤ 0 := fun hr => by
      have := hone hr
      simp only [List.length_cons] at this
      omega
    rcases hx with hc | hr
    · exact frozen_layerLoop w o rest _ (hnoni hc) fun hr => Nat.le_trans (hrest hr) (Nat.zero_le 1)
    · -- a child that could not get the layer's stack has no further layer
      rw [List.eq_nil_of_length_eq_zero (Nat.le_zero.1 (hrest hr)), layerLoop]
      exact hcase

/-- **C01_frozen** — once a `tearDown` has raised NotImplementedError, no further test runs and no
further layer `setUp` is called in that process (parent or child). -/
theorem C01_frozen (w : World) (o : Opts) (cb : Nat → Bool) :
    Frozen (runProcess w o cb).trace := by
  apply frozen_of_pairwise
  show (finalState w o cb).trace.Pairwise NoRunAfter
  have hstart : ∀ e ∈ (fsStart w o).trace, isNI e = false := by
    unfold fsStart
    split
    · intro e he
      rw [List.mem_singleton.1 he]
      rfl
    · intro e he; cases he
  have hloop : (fsLoop w o).1.trace.Pairwise NoRunAfter := by
    unfold fsLoop
    split
    · exact pairwise_of_noNI hstart
    · exact frozen_layerLoop w o _ _ hstart (child_one_layer w o)
  obtain ⟨new, hl, hk⟩ := finalState_logs w o cb
  rw [hl.trace]
  exact pairwise_append_quiet hloop (List.forall_mem_map.2 hk)

theorem layerLoop_suffix (w : World) (o : Opts) :
    ∀ (layers : List (Nat × List Proto.TestDef)) (s : PS), (layerLoop w o layers s).2 <:+ layers
  | [], _ => by simp [layerLoop]
  | (l, tests) :: rest, s =>
    layerLoop_cases w o l tests rest s (P := fun _ left => left <:+ (l, tests) :: rest) List.nil_suffix
      (fun _ _ => List.suffix_refl _) (fun _ => List.suffix_cons _ _)
      fun _ => (layerLoop_suffix w o rest _).trans (List.suffix_cons _ _)

/-- the spawn events, numbered from `n` -/
def spawnEvs : List (Nat × List Proto.TestDef) → Nat → List Ev
  | [], _ => []
  | (l, _) :: rest, n => .spawn l n :: spawnEvs rest (n + 1)

/-- **C01_rest_in_children** — without `--stop-on-error` (or under `-j`), every layer the layer loop
left over (from the one that hit `CanNotTearDown` on) is handed to a fresh subprocess, each exactly
once, in order, with consecutive resume numbers. -/
theorem C01_rest_in_children (o : Opts) (cb : Nat → Bool) (hx : o.stopOnError = false ∨ o.processes > 1) :
    ∀ (rest : List (Nat × List Proto.TestDef)) (n : Nat) (s : PS),
      (spawnAll o cb rest n s).trace = s.trace ++ spawnEvs rest n
  | [], _, s => by simp [spawnAll, spawnEvs]
  | (l, ts) :: rest, n, s => by
    have hc : spStops o s = false := by
      unfold spStops
      rcases hx with h | h
      · simp [h]
      · simp [show ¬ o.processes ≤ 1 by omega]
    rw [spawnAll_cons, hc, if_neg Bool.false_ne_true, C01_rest_in_children o cb hx rest (n + 1),
      (spOne_logs cb l n s).trace]
    simp [spawnEvs]


/-! ## non-vacuity: a diamond with a tear-down that is not supported, one that raises, a failing set-up -/

def c1G : Graph :=
  { bases := fun l => match l with | 1 => [0] | 2 => [0] | 3 => [1, 2] | _ => [], name := fun n => [n], unit := 99 }

def c1T (i : Nat) : Proto.TestDef := { id := i }

def c1W : World where
  graph := c1G
  info := fun _ => ⟨true, true, false, false⟩
  setUpRaises := fun l k => l == 2 && k == 0
  tearDownResult := fun l _ => if l == 1 then .notImpl else if l == 0 then .raised else .ok
  groups := [(1, [c1T 1]), (3, [c1T 3]), (2, [c1T 2])]
  importErrors := 0

theorem c1G_wf : WF c1G := by
  intro l b hb
  unfold c1G at hb
  simp only at hb
  split at hb <;> simp at hb <;> omega

-- the parent: runs layer 1, cannot tear it down for layer 2, hands layers 2 and 3 to children
example : (runProcess c1W {} (fun _ => false)).trace =
    [.header 1, .setUp 0 true, .setUp 1 true, .test (.tstart 1), .test (.code 1 .setUp), .test (.code 1 .body),
     .test (.code 1 .tearDown), .test (.passed 1), .test (.tend 1), .summary 1 0 0 0, .header 2,
     .tearDown 1 .notImpl, .spawn 2 0, .spawn 3 1, .tearDown 0 .raised] := by decide +kernel
-- the child for layer 3: the first set-up of layer 2 fails, nothing of layer 3 runs, layers 0 and 1 are torn down
example : (runProcess c1W { resume := some (3, 1) } (fun _ => false)).trace =
    [.header 3, .setUp 0 true, .setUp 1 true, .setUp 2 false, .tearDown 1 .notImpl, .tearDown 0 .raised] := by decide +kernel

end Ztr.Runner
