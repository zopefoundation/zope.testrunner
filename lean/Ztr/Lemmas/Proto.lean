import Ztr.Model.Proto
/-! Shape of `Proto.run`: `startTest`, then ops of the test's parts, then at most one final op,
then `stopTest` (and possibly the interrupt marker). -/
namespace Ztr.Proto

/-- ops that occur while the parts of a test run -/
def Mid : Op → Prop
  | .code _ _ | .addSkip | .addSubSkip | .addSubTest _ | .addFailure | .addError => True
  | _ => False

/-- the closing result of a test -/
def Final : Op → Prop
  | .addSuccess | .addExpectedFailure | .addUnexpectedSuccess => True
  | _ => False

/-- the ops of a part: its code, possibly followed by one result call `x` -/
theorem mid_part (ph : Phase) (ws : List (Bool × Nat)) :
    (∀ op ∈ [Op.code ph ws], Mid op) ∧ ∀ x, Mid x → ∀ op ∈ [Op.code ph ws] ++ [x], Mid op :=
  ⟨List.forall_mem_singleton.2 trivial, fun _ hx =>
    List.forall_mem_append.2 ⟨List.forall_mem_singleton.2 trivial, List.forall_mem_singleton.2 hx⟩⟩

theorem runPart_mid (ph : Phase) (p : Part) (o : Outcome) : ∀ op ∈ (runPart ph p o).1, Mid op := by
  obtain ⟨one, two⟩ := mid_part ph p.writes
  unfold runPart
  split
  · exact one
  · exact one
  · exact two _ trivial
  · split
    · exact one
    · exact two _ trivial
  · split
    · exact one
    · exact two _ trivial

theorem runSubs_mid : ∀ (k : Nat) (ps : List Part) (o : Outcome), ∀ op ∈ (runSubs k ps o).1, Mid op
  | _, [], _ => by simp [runSubs]
  | k, p :: ps, o => by
    obtain ⟨one, two⟩ := mid_part (.sub k) p.writes
    have more := fun x o' (hx : Mid x) => List.forall_mem_append.2 ⟨two x hx, runSubs_mid (k + 1) ps o'⟩
    unfold runSubs
    split
    · exact one
    · exact more _ _ trivial
    · exact more _ _ trivial
    · split
      · exact one
      · exact more _ _ trivial

theorem runCleanups_mid : ∀ (k : Nat) (ps : List Part) (o : Outcome), ∀ op ∈ (runCleanups k ps o).1, Mid op
  | _, [], _ => by simp [runCleanups]
  | k, p :: ps, o => by
    unfold runCleanups
    simp only []
    split
    · exact runPart_mid _ p o
    · exact List.forall_mem_append.2 ⟨runPart_mid _ p o, runCleanups_mid (k + 1) ps _⟩

theorem methodOps_mid (t : TestDef) (o : Outcome) : ∀ op ∈ (methodOps t o).1, Mid op := by
  unfold methodOps
  simp only []
  split
  · exact runSubs_mid 0 t.subs o
  · exact List.forall_mem_append.2 ⟨runSubs_mid 0 t.subs o, runPart_mid _ _ _⟩

theorem bodyBlock_mid (t : TestDef) (o : Outcome) : ∀ op ∈ (bodyBlock t o).1, Mid op := by
  unfold bodyBlock
  split
  · simp only []
    split
    · exact methodOps_mid t _
    · exact List.forall_mem_append.2 ⟨methodOps_mid t _, runPart_mid _ _ _⟩
  · simp

theorem finalOps_shape (t : TestDef) (o : Outcome) :
    ∃ fin : Option Op, finalOps t o = fin.toList ∧ ∀ f ∈ fin, Final f := by
  have one : ∀ x, Final x → ∃ fin : Option Op, [x] = fin.toList ∧ ∀ f ∈ fin, Final f :=
    fun x hx => ⟨some x, rfl, fun _ h => Option.some.inj h ▸ hx⟩
  unfold finalOps
  cases o.success
  · exact ⟨none, rfl, fun _ h => nomatch h⟩
  · cases t.expectFail
    · exact one _ trivial
    · cases o.expectedFailure
      · exact one _ trivial
      · exact one _ trivial

/-- the form of the script of a test that no decorator skips: `startTest`, the calls `mid` of its parts, at most
one closing result `fin`, `stopTest` and, if `i`, the interrupt marker -/
structure Shape (ops mid : List Op) (fin : Option Op) (i : Bool) : Prop where
  eq : ops = .startTest :: (mid ++ fin.toList ++ .stopTest :: if i then [.raiseInterrupt] else [])
  mid_ok : ∀ op ∈ mid, Mid op
  fin_ok : ∀ f ∈ fin, Final f

theorem run_shape (t : TestDef) (h : t.decoSkip = false) : ∃ mid fin i, Shape (run t) mid fin i := by
  unfold run
  simp only [h, Bool.false_eq_true, if_false]
  have h1 := runPart_mid .setUp t.setUp {}
  generalize runPart .setUp t.setUp {} = r1 at h1 ⊢
  have h2 := List.forall_mem_append.2 ⟨h1, bodyBlock_mid t r1.2⟩
  generalize bodyBlock t r1.2 = b at h2 ⊢
  have h3 := List.forall_mem_append.2 ⟨h2, runCleanups_mid 0 t.cleanups b.2⟩
  generalize runCleanups 0 t.cleanups b.2 = rc at h3 ⊢
  -- `split` is slow on this goal: the three conditions are decided by hand
  by_cases i1 : r1.2.interrupted = true
  · rw [if_pos i1]
    exact ⟨_, none, true, rfl, h1, fun _ h => nomatch h⟩
  by_cases i2 : b.2.interrupted = true
  · rw [if_neg i1, if_pos i2]
    exact ⟨_, none, true, rfl, h2, fun _ h => nomatch h⟩
  by_cases i3 : rc.2.interrupted = true
  · rw [if_neg i1, if_neg i2, if_pos i3]
    exact ⟨_, none, true, rfl, h3, fun _ h => nomatch h⟩
  · rw [if_neg i1, if_neg i2, if_neg i3]
    obtain ⟨fin, hfin, hf⟩ := finalOps_shape t rc.2
    exact ⟨_, fin, false, hfin ▸ rfl, h3, hf⟩

theorem run_decoSkip (t : TestDef) (h : t.decoSkip = true) : run t = [.addSkip, .stopTest] := by
  simp [run, h]

variable {ops mid : List Op} {fin : Option Op} {i : Bool}

theorem Shape.mid_fin (h : Shape ops mid fin i) : ∀ op ∈ mid ++ fin.toList, Mid op ∨ Final op :=
  List.forall_mem_append.2
    ⟨fun op ho => Or.inl (h.mid_ok op ho), fun op ho => Or.inr (h.fin_ok op (Option.mem_toList.1 ho))⟩

theorem Shape.mem_ops (h : Shape ops mid fin i) {op : Op} (ho : op ∈ mid ++ fin.toList) : op ∈ ops :=
  h.eq ▸ List.mem_cons_of_mem _ (List.mem_append_left _ ho)

theorem Shape.mem (h : Shape ops mid fin i) {op : Op} (ho : op ∈ ops) (hop : Mid op ∨ Final op) :
    op ∈ mid ++ fin.toList := by
  rw [h.eq, List.mem_cons, List.mem_append, List.mem_cons] at ho
  rcases ho with rfl | ho | rfl | ho
  · exact hop.elim False.elim False.elim
  · exact ho
  · exact hop.elim False.elim False.elim
  · cases i
    · cases ho
    · cases List.mem_singleton.1 ho
      exact hop.elim False.elim False.elim

end Ztr.Proto
