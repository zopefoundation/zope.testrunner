/-! The loop `for x in xs: if x not in seen: seen.add(x); yield x`, which `order_by_bases` and
`find_test_files` both contain: it yields every element not seen before exactly once. -/
namespace Ztr

variable {α : Type} {d : List α → List α → List α}

/-- `d seen xs` is that loop -/
structure SeenLoop (d : List α → List α → List α) : Prop where
  nil : ∀ seen, d seen [] = []
  cons_seen : ∀ {seen x} xs, x ∈ seen → d seen (x :: xs) = d seen xs
  cons_new : ∀ {seen x} xs, x ∉ seen → d seen (x :: xs) = x :: d (x :: seen) xs

theorem SeenLoop.mem (h : SeenLoop d) {a : α} : ∀ (seen l : List α), a ∈ d seen l ↔ a ∈ l ∧ a ∉ seen
  | seen, [] => by simp [h.nil]
  | seen, x :: xs => by
    by_cases hx : x ∈ seen
    · rw [h.cons_seen xs hx, h.mem seen xs, List.mem_cons]
      exact ⟨fun h => ⟨Or.inr h.1, h.2⟩, fun h => ⟨h.1.resolve_left fun e => h.2 (e ▸ hx), h.2⟩⟩
    · rw [h.cons_new xs hx, List.mem_cons, h.mem (x :: seen) xs, List.mem_cons, List.mem_cons]
      by_cases e : a = x
      · simp [e, hx]
      · simp [e]

theorem SeenLoop.nodup (h : SeenLoop d) : ∀ (seen l : List α), (d seen l).Nodup
  | seen, [] => by
    rw [h.nil]
    exact List.nodup_nil
  | seen, x :: xs => by
    by_cases hx : x ∈ seen
    · rw [h.cons_seen xs hx]
      exact h.nodup seen xs
    · rw [h.cons_new xs hx]
      exact List.nodup_cons.2
        ⟨fun hm => ((h.mem (x :: seen) xs).1 hm).2 List.mem_cons_self, h.nodup (x :: seen) xs⟩

end Ztr
