import Ztr.Model.Channel
/-! Lemmas about the byte-level channel model: lines, decimal numbers, tokens, the header and its prefixes. -/
namespace Ztr.Channel

theorem prefix_append_cons {α : Type} {r t w rest : List α} {x : α} (h : r ++ t = w ++ x :: rest) :
    (∃ t', r ++ t' = w) ∨ ∃ r', r = w ++ x :: r' ∧ r' ++ t = rest := by
  rcases List.append_eq_append_iff.1 h with ⟨t', hw, _⟩ | ⟨c, hr, hc⟩
  · exact Or.inl ⟨t', hw.symm⟩
  · cases c with
    | nil => exact Or.inl ⟨[], by rw [hr, List.append_nil, List.append_nil]⟩
    | cons y c =>
      rw [List.cons_append, List.cons.injEq] at hc
      exact Or.inr ⟨c, hc.1 ▸ hr, hc.2.symm⟩

theorem splitLinesAux_append : ∀ (l rest cur : Bytes), 10 ∉ l →
    splitLinesAux (l ++ rest) cur = splitLinesAux rest (l.reverse ++ cur)
  | [], _, _, _ => rfl
  | b :: l, rest, cur, h => by
    have hb : ¬ (b == 10) = true := fun e => h (beq_iff_eq.1 e ▸ List.mem_cons_self)
    rw [List.cons_append, splitLinesAux, if_neg hb,
      splitLinesAux_append l rest (b :: cur) (fun e => h (List.mem_cons_of_mem _ e))]
    simp

theorem joinLines_cons (l : Bytes) (ls : List Bytes) : joinLines (l :: ls) = l ++ 10 :: joinLines ls := by
  simp [joinLines]

theorem joinLines_append (a b : List Bytes) : joinLines (a ++ b) = joinLines a ++ joinLines b :=
  List.flatMap_append

theorem splitLines_joinLines : ∀ (ls : List Bytes) (r : Bytes), (∀ l ∈ ls, 10 ∉ l) → 10 ∉ r →
    splitLines (joinLines ls ++ r) = (ls, r)
  | [], r, _, hr => by
    have := splitLinesAux_append r [] [] hr
    simpa [splitLines, joinLines, splitLinesAux] using this
  | l :: ls, r, h, hr => by
    have ih := splitLines_joinLines ls r (fun x hx => h x (List.mem_cons_of_mem _ hx)) hr
    unfold splitLines at *
    rw [joinLines_cons, List.append_assoc, List.cons_append, splitLinesAux_append l _ [] (h l List.mem_cons_self),
      splitLinesAux, if_pos (beq_self_eq_true 10), ih]
    simp

theorem strictPrefix_joinLines : ∀ (ls : List Bytes) (p s : Bytes), s ≠ [] → p ++ s = joinLines ls →
    ∃ a b r t, ls = a ++ (r ++ t) :: b ∧ p = joinLines a ++ r
  | [], _, _, hs, h => absurd (List.append_eq_nil_iff.1 h).2 hs
  | l :: ls, p, s, hs, h => by
    rw [joinLines_cons] at h
    rcases prefix_append_cons h with ⟨t, rfl⟩ | ⟨p', rfl, hp'⟩
    · exact ⟨[], ls, p, t, rfl, rfl⟩
    · obtain ⟨a, b, r, t, rfl, rfl⟩ := strictPrefix_joinLines ls p' s hs hp'
      exact ⟨l :: a, b, r, t, rfl, by rw [joinLines_cons, List.append_assoc, List.cons_append]⟩

def dstep (x d : Nat) : Nat := x * 10 + (d - 48)

theorem dstep_digit (x k : Nat) : dstep x (48 + k) = x * 10 + k := by
  rw [dstep, Nat.add_sub_cancel_left]

theorem digitsVal_allDigits : ∀ (ds : Bytes) (acc : Nat) (pd : Bool), (∀ b ∈ ds, isDigit b = true) →
    (ds ≠ [] ∨ pd = true) → digitsVal ds acc pd = some (ds.foldl dstep acc)
  | [], acc, pd, _, h => by
    rcases h with h | h
    · exact absurd rfl h
    · simp [digitsVal, h]
  | b :: bs, acc, pd, hd, _ => by
    simp only [digitsVal, hd b List.mem_cons_self, if_true, List.foldl_cons]
    exact digitsVal_allDigits bs _ true (fun x hx => hd x (List.mem_cons_of_mem _ hx)) (Or.inr rfl)

theorem parseInt_digits (ds : Bytes) (hd : ∀ b ∈ ds, isDigit b = true) (hne : ds ≠ []) :
    parseInt ds = some (Int.ofNat (ds.foldl dstep 0)) := by
  have sign : ∀ s rest, isDigit s = false → ds = s :: rest → False := fun s rest hs e =>
    Bool.false_ne_true (hs ▸ hd s (e ▸ List.mem_cons_self))
  -- the last equation of `parseInt`: `ds` is not empty and begins with neither `+` nor `-`
  rw [parseInt.eq_4 ds hne (fun rest => sign 43 rest rfl) (fun rest => sign 45 rest rfl),
    digitsVal_allDigits ds 0 false hd (Or.inl hne), Option.map_some]

theorem isDigit_add {k : Nat} (h : k < 10) : isDigit (48 + k) = true := by
  rw [isDigit, Bool.and_eq_true, decide_eq_true_eq, decide_eq_true_eq]
  omega

theorem renderNatAux_spec : ∀ (f n : Nat) (acc : Bytes), n < f →
    ∃ d ds, renderNatAux f n acc = d :: ds ++ acc ∧ (∀ b ∈ d :: ds, isDigit b = true) ∧
      (d :: ds).foldl dstep 0 = n ∧ (d = 48 → n = 0)
  | 0, _, _, h => absurd h (Nat.not_lt_zero _)
  | f + 1, n, acc, h => by
    rw [renderNatAux]
    by_cases hn : n < 10
    · rw [if_pos hn]
      refine ⟨48 + n, [], rfl, ?_, (dstep_digit 0 n).trans (Nat.zero_add n), by omega⟩
      intro b hb
      rw [List.mem_singleton.1 hb]
      exact isDigit_add hn
    · rw [if_neg hn]
      obtain ⟨d, ds, e, hd, hv, h0⟩ := renderNatAux_spec f (n / 10) ((48 + n % 10) :: acc) (by omega)
      refine ⟨d, ds ++ [48 + n % 10], e.trans (List.append_cons ..), ?_, ?_, by omega⟩
      · intro b hb
        rw [← List.cons_append, List.mem_append, List.mem_singleton] at hb
        rcases hb with hb | rfl
        · exact hd b hb
        · exact isDigit_add (Nat.mod_lt n (by decide))
      · rw [← List.cons_append, List.foldl_append, hv]
        exact (dstep_digit _ _).trans (Nat.div_add_mod' n 10)

theorem renderNat_spec (n : Nat) : ∃ d ds, renderNat n = d :: ds ∧ (∀ b ∈ d :: ds, isDigit b = true) ∧
    (d :: ds).foldl dstep 0 = n ∧ (d = 48 → n = 0) := by
  obtain ⟨d, ds, e, h⟩ := renderNatAux_spec (n + 1) n [] (Nat.lt_succ_self n)
  exact ⟨d, ds, e.trans (List.append_nil _), h⟩

theorem renderNat_digits (n : Nat) : ∀ b ∈ renderNat n, isDigit b = true := by
  obtain ⟨d, ds, e, hd, _⟩ := renderNat_spec n
  rwa [e]

theorem renderNat_ne_nil (n : Nat) : renderNat n ≠ [] := by
  obtain ⟨d, ds, e, _⟩ := renderNat_spec n
  rw [e]
  exact List.cons_ne_nil d ds

theorem parseNat_renderNat (n : Nat) : parseInt (renderNat n) = some (Int.ofNat n) := by
  obtain ⟨d, ds, e, hd, hv, _⟩ := renderNat_spec n
  rw [e, parseInt_digits _ hd (List.cons_ne_nil d ds), hv]

theorem foldl_dstep_ge : ∀ (ds : Bytes) (acc : Nat), acc ≤ ds.foldl dstep acc
  | [], _ => Nat.le_refl _
  | d :: ds, acc => Nat.le_trans (by unfold dstep; omega) (foldl_dstep_ge ds (dstep acc d))

/-- a non-empty prefix of `str(n)` reads as the number 0 only if `n = 0`: its first digit is then `0` -/
theorem prefix_value_zero (n : Nat) (c t : Bytes) (hc : c ≠ []) (h : c ++ t = renderNat n)
    (z : Int) (hz : parseInt c = some z) (hz0 : z.toNat = 0) : n = 0 := by
  obtain ⟨d, ds, e, hd, _, h0⟩ := renderNat_spec n
  have hcd : ∀ x ∈ c, isDigit x = true := fun x hx => hd x (e ▸ h ▸ List.mem_append_left t hx)
  rw [parseInt_digits c hcd hc, Option.some.injEq] at hz
  subst hz
  cases c with
  | nil => exact absurd rfl hc
  | cons d' cs =>
    obtain ⟨rfl, _⟩ := List.cons.inj (h.trans e)
    have hv : dstep 0 d' = 0 := Nat.le_zero.1 (Nat.le_trans (foldl_dstep_ge cs _) (Nat.le_of_eq hz0))
    have hd' := hd d' List.mem_cons_self
    simp only [isDigit, Bool.and_eq_true, decide_eq_true_eq] at hd'
    unfold dstep at hv
    exact h0 (by omega)

theorem isDigit_not_ws {b : Nat} (h : isDigit b = true) : isWs b = false := by
  simp [isDigit] at h
  simp [isWs]
  omega

theorem tokensAux_word : ∀ (w rest cur : Bytes), (∀ b ∈ w, isWs b = false) →
    tokensAux (w ++ rest) cur = tokensAux rest (w.reverse ++ cur)
  | [], _, _, _ => rfl
  | b :: w, rest, cur, h => by
    rw [List.cons_append, tokensAux, if_neg (Bool.eq_false_iff.1 (h b List.mem_cons_self)),
      tokensAux_word w rest (b :: cur) (fun x hx => h x (List.mem_cons_of_mem _ hx))]
    simp

theorem tokens_digits (w : Bytes) (hw : ∀ b ∈ w, isDigit b = true) :
    tokens w = if w = [] then [] else [w] := by
  have := tokensAux_word w [] [] (fun b hb => isDigit_not_ws (hw b hb))
  simpa [tokens, tokensAux] using this

theorem tokens_digits_sp (w rest : Bytes) (hw : ∀ b ∈ w, isDigit b = true) (hne : w ≠ []) :
    tokens (w ++ 32 :: rest) = w :: tokens rest := by
  have := tokensAux_word w (32 :: rest) [] (fun b hb => isDigit_not_ws (hw b hb))
  simpa [tokens, tokensAux, isWs, hne] using this

theorem headerLine_eq (a b c : Nat) :
    headerLine a b c = renderNat a ++ 32 :: (renderNat b ++ 32 :: renderNat c) := by
  simp [headerLine]

theorem parseHeader_headerLine (a b c : Nat) :
    parseHeader (headerLine a b c) = some (Int.ofNat a, Int.ofNat b, Int.ofNat c) := by
  have ht : tokens (headerLine a b c) = [renderNat a, renderNat b, renderNat c] := by
    rw [headerLine_eq, tokens_digits_sp _ _ (renderNat_digits a) (renderNat_ne_nil a),
      tokens_digits_sp _ _ (renderNat_digits b) (renderNat_ne_nil b),
      tokens_digits _ (renderNat_digits c), if_neg (renderNat_ne_nil c)]
  simp [parseHeader, ht, parseNat_renderNat]

theorem headerLine_noNl (a b c : Nat) : 10 ∉ headerLine a b c := by
  have nd : ∀ n, 10 ∉ renderNat n := fun n h => absurd (renderNat_digits n 10 h) (by decide)
  simp [headerLine_eq, nd]

/-- a prefix `r` of three numbers separated by blanks that splits into three tokens: the cut falls inside the third
number (a piece of a number is one token or none, so a cut further left leaves fewer than three) -/
theorem tokens_prefix3 {A B C r t a b c : Bytes}
    (hA : ∀ x ∈ A, isDigit x = true) (hB : ∀ x ∈ B, isDigit x = true) (hC : ∀ x ∈ C, isDigit x = true)
    (hAne : A ≠ []) (hBne : B ≠ [])
    (h : r ++ t = A ++ 32 :: (B ++ 32 :: C)) (ht : tokens r = [a, b, c]) :
    a = A ∧ b = B ∧ c ≠ [] ∧ c ++ t = C := by
  have piece : ∀ {w u D : Bytes}, (∀ x ∈ D, isDigit x = true) → w ++ u = D →
      tokens w = if w = [] then [] else [w] := fun hD e =>
    tokens_digits _ (fun x hx => hD x (e ▸ List.mem_append_left _ hx))
  rcases prefix_append_cons h with ⟨u, hu⟩ | ⟨r', rfl, h'⟩
  · -- the cut is inside `A`: at most one token
    rw [piece hA hu] at ht
    split at ht <;> cases ht
  · rw [tokens_digits_sp A r' hA hAne, List.cons.injEq] at ht
    obtain ⟨rfl, ht⟩ := ht
    rcases prefix_append_cons h' with ⟨u, hu⟩ | ⟨r'', rfl, h''⟩
    · -- the cut is inside `B`: at most two tokens
      rw [piece hB hu] at ht
      split at ht <;> cases ht
    · -- the cut is inside `C`: the third token is the piece of `C` in front of it
      rw [tokens_digits_sp B r'' hB hBne, List.cons.injEq] at ht
      obtain ⟨rfl, ht⟩ := ht
      rw [piece hC h''] at ht
      split at ht
      · cases ht
      · rename_i hne
        cases ht
        exact ⟨rfl, rfl, hne, h''⟩

/-- **the header of a cut report**: if a prefix `r` of the header line parses as a header that
announces no names, it carries exactly the child's numbers, and the child's lists were empty -/
theorem parseHeader_prefix_zero (ran nf ne : Nat) (r t : Bytes) (h : r ++ t = headerLine ran nf ne)
    (x y z : Int) (hp : parseHeader r = some (x, y, z)) (h0 : y.toNat + z.toNat = 0) :
    x = Int.ofNat ran ∧ nf = 0 ∧ ne = 0 := by
  rw [headerLine_eq] at h
  unfold parseHeader at hp
  split at hp
  · rename_i a b c htok
    obtain ⟨rfl, rfl, hcne, hct⟩ := tokens_prefix3 (renderNat_digits ran) (renderNat_digits nf)
      (renderNat_digits ne) (renderNat_ne_nil ran) (renderNat_ne_nil nf) h htok
    rw [parseNat_renderNat, parseNat_renderNat] at hp
    cases hz : parseInt c with
    | none => rw [hz] at hp; cases hp
    | some z' =>
      rw [hz] at hp
      cases hp
      have hy0 : nf = 0 := Nat.eq_zero_of_add_eq_zero_right h0
      exact ⟨rfl, hy0, prefix_value_zero ne c t hcne hct _ hz (Nat.eq_zero_of_add_eq_zero_left h0)⟩
  · cases hp

theorem findHeader_skip : ∀ (pre : List Bytes) (rest : List Bytes),
    (∀ l ∈ pre, parseHeader l = none) → findHeader (pre ++ rest) = findHeader rest
  | [], _, _ => rfl
  | l :: ls, rest, h => by
    rw [List.cons_append, findHeader, h l List.mem_cons_self]
    exact findHeader_skip ls rest (fun x hx => h x (List.mem_cons_of_mem _ hx))

theorem findHeader_none (pre : List Bytes) (h : ∀ l ∈ pre, parseHeader l = none) : findHeader pre = none := by
  simpa [findHeader] using findHeader_skip pre [] h

/-- a name as it travels: no newline, nothing for `strip` to remove, valid UTF-8 -/
def Clean (n : Bytes) : Prop := 10 ∉ n ∧ strip n = n ∧ utf8Valid n = true

theorem map_strip_clean {ns : List Bytes} (h : ∀ n ∈ ns, Clean n) : ns.map strip = ns :=
  (List.map_congr_left (g := id) fun n hn => (h n hn).2.1).trans (List.map_id ns)

end Ztr.Channel
