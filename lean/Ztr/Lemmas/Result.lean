import Ztr.Model.Result
import Ztr.Lemmas.Proto
/-! Lemmas about the `TestResult` model: what the operations `step` is composed of do; a case principle for
`step` (`step_cases`, and `step_running` for the calls inside a test), and with it what `step` does to single
fields (`capOk_step`, `step_shouldStop`, …); and the normal form of `test(result)` started between two tests, the
*test window* (`runTest_window`, `runTest_rule`). -/
namespace Ztr.Result
open Ztr.Proto

def isHook : REv → Bool
  | .hookSetUp _ _ | .hookTearDown _ _ => true
  | _ => false

/-- the capture buffers are only ever installed under `--buffer` -/
def CapOk (c : Cfg) (s : RS) : Prop := c.buffer = false → s.captured = false

/-- inside a test: the state `startTest` (or the skip fallback) established -/
structure Running (s : RS) : Prop where
  aborted : s.aborted = false
  hasTestState : s.hasTestState = true
  hasStartTime : s.hasStartTime = true

structure Between (s : RS) : Prop where
  aborted : s.aborted = false
  hasTestState : s.hasTestState = false
  captured : s.captured = false

def recorded : Op → Option Bad
  | .addFailure => some .failure
  | .addError => some .error
  | .addUnexpectedSuccess => some .unexpectedSuccess
  | .addSubTest (some e) => some (if e = .fail then .subFailure else .subError)
  | _ => none

def IsBadOp : Op → Prop
  | .addFailure | .addError | .addUnexpectedSuccess | .addSubTest (some _) => True
  | _ => False

theorem isBadOp_iff {op : Op} : IsBadOp op ↔ ∃ b, recorded op = some b := by
  cases op with
  | addSubTest e => cases e <;> simp [IsBadOp, recorded]
  | _ => simp [IsBadOp, recorded]

theorem IsBadOp.mid_or_final {op : Op} (h : IsBadOp op) : Mid op ∨ Final op := by
  cases op with
  | addFailure | addError | addSubTest _ => exact Or.inl trivial
  | addUnexpectedSuccess => exact Or.inr trivial
  | _ => exact h.elim

theorem restoreStreams_capOk {c : Cfg} {s : RS} (h : CapOk c s) : restoreStreams c s =
    ({ s with captured := false, buf := if s.captured then [] else s.buf }, if s.captured then s.buf else []) := by
  unfold restoreStreams
  cases hb : c.buffer
  · simp [h hb]
  · simp

theorem restore_evs (c : Cfg) (s : RS) : (restoreStreams c s).1.evs = s.evs := rfl

theorem writeToks_captured (t : Nat) (s : RS) (ws : List (Bool × Nat)) (h : s.captured = true) :
    writeToks t s ws = { s with buf := s.buf ++ ws.map (·.2) } := by
  simp [writeToks, h]

theorem writeToks_orig (t : Nat) (s : RS) (ws : List (Bool × Nat)) (h : s.captured = false) :
    writeToks t s ws = { s with evs := s.evs ++ ws.map (fun w => REv.leak t w.2) } := by
  simp [writeToks, h]

theorem bad_eq (c : Cfg) (t : Nat) (b : Bad) (s : RS) : bad c t b s =
    { record t b (restoreStreams c s).1 with
      shouldStop := s.shouldStop || c.stopOnError
      evs := s.evs ++ [.report t b (restoreStreams c s).2] } := by
  unfold bad stopIf record RS.emit
  rfl

theorem skipFallback_between (c : Cfg) (t : TestDef) {s : RS} (hb : Between s) : skipFallback c t s =
    { s with hasTestState := true, hasStartTime := true, testsRun := s.testsRun + t.count,
             evs := s.evs ++ c.hooksUp.map (fun l => .hookSetUp l true) } := by
  simp [skipFallback, callHooksUp, hb.captured]

theorem startTest_between (c : Cfg) (t : TestDef) {s : RS} (hb : Between s) :
    startTest c t s = { skipFallback c t s with captured := c.buffer } := by
  simp [startTest, setUpStreams, skipFallback, callHooksUp, hb.captured]

theorem stopTest_running (c : Cfg) {x : RS} (hr : Running x) (hc : CapOk c x) : stopTest c x =
    { x with hasTestState := false, captured := false, buf := if x.captured then [] else x.buf,
             evs := x.evs ++ c.hooksDown.map (fun l => .hookTearDown l true) } := by
  simp [stopTest, callHooksDown, restoreStreams_capOk hc, hr.hasTestState]

/-- `s'` is `s` with more events, none of them a hook call; the flags are unchanged -/
structure Ext (s s' : RS) : Prop where
  aborted : s'.aborted = s.aborted
  hasTestState : s'.hasTestState = s.hasTestState
  hasStartTime : s'.hasStartTime = s.hasStartTime
  interrupted : s'.interrupted = s.interrupted
  evs : ∃ new, s'.evs = s.evs ++ new ∧ ∀ e ∈ new, isHook e = false

theorem Ext.refl (s : RS) : Ext s s := ⟨rfl, rfl, rfl, rfl, [], by simp, by simp⟩

theorem Ext.trans {a b c : RS} (h1 : Ext a b) (h2 : Ext b c) : Ext a c := by
  obtain ⟨n1, e1, p1⟩ := h1.evs
  obtain ⟨n2, e2, p2⟩ := h2.evs
  exact ⟨h2.aborted.trans h1.aborted, h2.hasTestState.trans h1.hasTestState,
    h2.hasStartTime.trans h1.hasStartTime, h2.interrupted.trans h1.interrupted,
    n1 ++ n2, by rw [e2, e1, List.append_assoc],
    fun e he => (List.mem_append.1 he).elim (p1 e) (p2 e)⟩

theorem ext_emit (s : RS) (e : REv) (h : isHook e = false) : Ext s (s.emit e) :=
  ⟨rfl, rfl, rfl, rfl, [e], rfl, List.forall_mem_singleton.2 h⟩

theorem ext_restore (c : Cfg) (s : RS) : Ext s (restoreStreams c s).1 :=
  ⟨rfl, rfl, rfl, rfl, [], by simp [restoreStreams], by simp⟩

theorem ext_bad (c : Cfg) (t : Nat) (b : Bad) (s : RS) : Ext s (bad c t b s) := by
  rw [bad_eq]
  exact ⟨rfl, rfl, rfl, rfl, [_], rfl, List.forall_mem_singleton.2 rfl⟩

theorem ext_noteSkip (t : Nat) (s : RS) : Ext s (noteSkip t s) :=
  ⟨rfl, rfl, rfl, rfl, [.skipped t], rfl, List.forall_mem_singleton.2 rfl⟩

theorem Running.of_ext {s s' : RS} (h : Running s) (e : Ext s s') : Running s' :=
  ⟨e.aborted.trans h.aborted, e.hasTestState.trans h.hasTestState, e.hasStartTime.trans h.hasStartTime⟩

@[elab_as_elim] theorem step_cases {P : RS → Prop} (c : Cfg) (t : TestDef) (s : RS) (op : Op)
    (same : s.aborted = true ∨ op = .addSubTest none → P s)
    (abort : s.hasStartTime = false → P { s with aborted := true })
    (abortRestored : s.hasStartTime = false → P { (restoreStreams c s).1 with aborted := true })
    (start : op = .startTest → P (startTest c t s))
    (stop : op = .stopTest → P (stopTest c s))
    (held : ∀ ph ws, op = .code ph ws → s.captured = true →
      P { s with buf := s.buf ++ ws.map (·.2), evs := s.evs ++ [.code t.id ph] })
    (leaked : ∀ ph ws, op = .code ph ws → s.captured = false →
      P { s with evs := s.evs ++ [.code t.id ph] ++ ws.map (fun w => .leak t.id w.2) })
    (passed : op = .addSuccess ∨ op = .addExpectedFailure → P ((restoreStreams c s).1.emit (.passed t.id)))
    (skip : op = .addSkip ∨ op = .addSubSkip → s.hasTestState = true → P (noteSkip t.id s))
    (fallback : op = .addSkip ∨ op = .addSubSkip → s.hasTestState = false →
      P (noteSkip t.id (skipFallback c t s)))
    (bad : ∀ b, recorded op = some b → P (bad c t.id b s))
    (mark : op = .raiseInterrupt → P { s with interrupted := true }) : P (step c t s op) := by
  unfold step
  by_cases ha : s.aborted = true
  · rw [if_pos ha]
    exact same (Or.inl ha)
  rw [if_neg ha]
  have hbad : ∀ b, recorded op = some b →
      P (if (!s.hasStartTime) = true then { s with aborted := true } else Result.bad c t.id b s) :=
    fun b hb => iteInduction (fun h => abort (Bool.not_eq_true' _ ▸ h)) fun _ => bad b hb
  have hpassed : op = .addSuccess ∨ op = .addExpectedFailure →
      P (if s.hasStartTime = true then (restoreStreams c s).1.emit (.passed t.id)
        else { (restoreStreams c s).1 with aborted := true }) :=
    fun h => iteInduction (fun _ => passed h) fun hst => abortRestored (Bool.not_eq_true _ ▸ hst)
  have hskip : op = .addSkip ∨ op = .addSubSkip →
      P (noteSkip t.id (if (!s.hasTestState) = true then skipFallback c t s else s)) :=
    fun h => iteInduction (motive := fun x => P (noteSkip t.id x)) (fun hts => fallback h (Bool.not_eq_true' _ ▸ hts))
      fun hts => skip h (by simpa using hts)
  cases op with
  | startTest => exact start rfl
  | stopTest => exact stop rfl
  | code ph ws =>
    show P (writeToks t.id (s.emit (.code t.id ph)) ws)
    cases hc : s.captured
    · exact writeToks_orig t.id (s.emit _) ws hc ▸ leaked ph ws rfl hc
    · exact writeToks_captured t.id (s.emit _) ws hc ▸ held ph ws rfl hc
  | raiseInterrupt => exact mark rfl
  | addSubTest e =>
    cases e with
    | none => exact same (Or.inr rfl)
    | some e => exact hbad _ rfl
  | addError => exact hbad _ rfl
  | addFailure => exact hbad _ rfl
  | addUnexpectedSuccess => exact hbad _ rfl
  | addSuccess => exact hpassed (Or.inl rfl)
  | addExpectedFailure => exact hpassed (Or.inr rfl)
  | addSkip => exact hskip (Or.inl rfl)
  | addSubSkip => exact hskip (Or.inr rfl)

@[elab_as_elim] theorem step_running {P : RS → Prop} {c : Cfg} {t : TestDef} {s : RS} {op : Op} (hr : Running s)
    (hop : Mid op ∨ Final op)
    (held : ∀ ph ws, op = .code ph ws → s.captured = true →
      P { s with buf := s.buf ++ ws.map (·.2), evs := s.evs ++ [.code t.id ph] })
    (leaked : ∀ ph ws, op = .code ph ws → s.captured = false →
      P { s with evs := s.evs ++ [.code t.id ph] ++ ws.map (fun w => .leak t.id w.2) })
    (passed : op = .addSuccess ∨ op = .addExpectedFailure → P ((restoreStreams c s).1.emit (.passed t.id)))
    (skip : op = .addSkip ∨ op = .addSubSkip → P (noteSkip t.id s))
    (subOk : op = .addSubTest none → P s)
    (bad : ∀ b, recorded op = some b → P (bad c t.id b s)) : P (step c t s op) := by
  have hno : ∀ {o x}, ¬ (Mid o ∨ Final o) → op = o → P x := fun h e => absurd (e ▸ hop) h
  have hst : ∀ {x}, s.hasStartTime = false → P x := fun h => absurd (hr.hasStartTime.symm.trans h) nofun
  refine step_cases c t s op (same := ?same) (abort := hst) (abortRestored := hst)
    (start := hno (by simp [Mid, Final])) (stop := hno (by simp [Mid, Final]))
    (held := held) (leaked := leaked) (passed := passed) (skip := fun h _ => skip h)
    (fallback := fun _ h => absurd (hr.hasTestState.symm.trans h) nofun) (bad := bad)
    (mark := hno (by simp [Mid, Final]))
  rintro (h | h)
  · exact absurd (hr.aborted.symm.trans h) nofun
  · exact subOk h

theorem step_startTest (c : Cfg) (t : TestDef) {s : RS} (h : s.aborted = false) :
    step c t s .startTest = startTest c t s :=
  if_neg (h ▸ nofun)

theorem step_stopTest (c : Cfg) (t : TestDef) {s : RS} (h : s.aborted = false) :
    step c t s .stopTest = stopTest c s :=
  if_neg (h ▸ nofun)

theorem step_interrupt (c : Cfg) (t : TestDef) {s : RS} (h : s.aborted = false) :
    step c t s .raiseInterrupt = { s with interrupted := true } :=
  if_neg (h ▸ nofun)

/-- `addSkip` without a preceding `startTest`: a test skipped by a decorator -/
theorem step_addSkip (c : Cfg) (t : TestDef) {s : RS} (h : Between s) :
    step c t s .addSkip = noteSkip t.id (skipFallback c t s) :=
  (if_neg (h.aborted ▸ nofun)).trans (congrArg (noteSkip t.id) (if_pos (congrArg not h.hasTestState)))

theorem ext_step_running (c : Cfg) (t : TestDef) (s : RS) (op : Op) (hr : Running s)
    (hop : Mid op ∨ Final op) : Ext s (step c t s op) :=
  step_running hr hop
    (held := fun _ _ _ _ => ⟨rfl, rfl, rfl, rfl, [_], rfl, List.forall_mem_singleton.2 rfl⟩)
    (leaked := fun _ ws _ _ => (ext_emit s _ rfl).trans
      ⟨rfl, rfl, rfl, rfl, ws.map _, rfl, List.forall_mem_map.2 fun _ _ => rfl⟩)
    (passed := fun _ => (ext_restore c s).trans (ext_emit _ _ rfl))
    (skip := fun _ => ext_noteSkip _ _)
    (subOk := fun _ => Ext.refl s)
    (bad := fun _ _ => ext_bad _ _ _ _)

theorem capOk_step (c : Cfg) (t : TestDef) (s : RS) (op : Op) (h : CapOk c s) : CapOk c (step c t s op) := by
  intro hb
  have hs := h hb
  have hr : (restoreStreams c s).1.captured = false := by rw [restoreStreams_capOk h]
  refine step_cases c t s op
    (same := fun _ => hs) (abort := fun _ => hs) (abortRestored := fun _ => hr) (start := fun _ => ?_)
    (stop := fun _ => hr) (held := fun _ _ _ _ => hs) (leaked := fun _ _ _ _ => hs) (passed := fun _ => hr)
    (skip := fun _ _ => hs) (fallback := fun _ _ => hs) (bad := fun _ _ => hr) (mark := fun _ => hs)
  show (c.buffer || s.captured) = false
  rw [hb, hs]
  rfl

theorem step_shouldStop (c : Cfg) (t : TestDef) (s : RS) (op : Op) :
    (step c t s op).shouldStop = s.shouldStop ∨ (step c t s op).shouldStop = (s.shouldStop || c.stopOnError) :=
  step_cases c t s op
    (same := fun _ => Or.inl rfl) (abort := fun _ => Or.inl rfl) (abortRestored := fun _ => Or.inl rfl)
    (start := fun _ => Or.inl rfl) (stop := fun _ => Or.inl rfl) (held := fun _ _ _ _ => Or.inl rfl)
    (leaked := fun _ _ _ _ => Or.inl rfl) (passed := fun _ => Or.inl rfl) (skip := fun _ _ => Or.inl rfl)
    (fallback := fun _ _ => Or.inl rfl) (bad := fun _ _ => Or.inr (by rw [bad_eq])) (mark := fun _ => Or.inl rfl)

theorem step_interrupted (c : Cfg) (t : TestDef) (s : RS) (op : Op) (hop : op ≠ .raiseInterrupt) :
    (step c t s op).interrupted = s.interrupted := by
  refine step_cases c t s op
    (same := fun _ => rfl) (abort := fun _ => rfl) (abortRestored := fun _ => rfl) (start := fun _ => rfl)
    (stop := fun _ => rfl) (held := fun _ _ _ _ => rfl) (leaked := fun _ _ _ _ => rfl) (passed := fun _ => rfl)
    (skip := fun _ _ => rfl) (fallback := fun _ _ => rfl) (bad := fun b _ => ?bad) (mark := fun h => absurd h hop)
  rw [bad_eq]
  rfl

theorem step_testsRun_running (c : Cfg) (t : TestDef) (s : RS) (op : Op) (hr : Running s) (hop : Mid op ∨ Final op) :
    (step c t s op).testsRun = s.testsRun :=
  step_running hr hop (held := fun _ _ _ _ => rfl) (leaked := fun _ _ _ _ => rfl) (passed := fun _ => rfl)
    (skip := fun _ => rfl) (subOk := fun _ => rfl) (bad := fun _ _ => by rw [bad_eq]; rfl)

theorem foldl_running {P : RS → Prop} (c : Cfg) (t : TestDef) {ops : List Op}
    (hops : ∀ op ∈ ops, Mid op ∨ Final op) {s : RS} (hr : Running s) (hc : CapOk c s) (h : P s)
    (hstep : ∀ x op, op ∈ ops → Running x → CapOk c x → P x → P (step c t x op)) :
    Running (ops.foldl (step c t) s) ∧ CapOk c (ops.foldl (step c t) s) ∧ P (ops.foldl (step c t) s) :=
  List.foldlRecOn ops (step c t) (motive := fun x => Running x ∧ CapOk c x ∧ P x) ⟨hr, hc, h⟩
    fun x ⟨hx, hcx, px⟩ op hop => ⟨hx.of_ext (ext_step_running c t x op hx (hops op hop)), capOk_step c t x op hcx,
      hstep x op hop hx hcx px⟩

theorem foldl_running' (c : Cfg) (t : TestDef) {ops : List Op} (hops : ∀ op ∈ ops, Mid op ∨ Final op) {s : RS}
    (hr : Running s) (hc : CapOk c s) : Running (ops.foldl (step c t) s) ∧ CapOk c (ops.foldl (step c t) s) :=
  have h := foldl_running (P := fun _ => True) c t hops hr hc trivial fun _ _ _ _ _ _ => trivial
  ⟨h.1, h.2.1⟩

/-! From a between-tests state, `test(result)` enters the test (`startTest`, or the fallback of `addSkip` for
a test skipped by a decorator), makes the calls of `Proto.run` on a `Running` state, and leaves it
(`stopTest`, possibly the interrupt marker) in a between-tests state again. -/

/-- the state in which the parts of test `t` run, entered from the between-tests state `s` -/
def enter (c : Cfg) (t : TestDef) (s : RS) : RS :=
  { s with hasTestState := true, hasStartTime := true, testsRun := s.testsRun + t.count,
           captured := !t.decoSkip && c.buffer,
           evs := s.evs ++ [.tstart t.id] ++ c.hooksUp.map (fun l => .hookSetUp l true) }

/-- the between-tests state in which test `t` leaves the result when its calls ended in `x`;
`i`: a KeyboardInterrupt propagates -/
def leave (c : Cfg) (t : TestDef) (i : Bool) (x : RS) : RS :=
  { x with hasTestState := false, captured := false, buf := if x.captured then [] else x.buf,
           interrupted := x.interrupted || i,
           evs := x.evs ++ c.hooksDown.map (fun l => .hookTearDown l true) ++ [.tend t.id] }

theorem running_enter (c : Cfg) (t : TestDef) {s : RS} (hb : Between s) : Running (enter c t s) :=
  ⟨hb.aborted, rfl, rfl⟩

theorem capOk_enter (c : Cfg) (t : TestDef) (s : RS) : CapOk c (enter c t s) := fun h => by
  simp [enter, h]

theorem between_leave (c : Cfg) (t : TestDef) (i : Bool) {x : RS} (hr : Running x) : Between (leave c t i x) :=
  ⟨hr.aborted, rfl, rfl⟩

theorem stopTest_leave (c : Cfg) (t : TestDef) {x : RS} (hr : Running x) (hc : CapOk c x) (i : Bool) :
    ((if i then [Op.raiseInterrupt] else []).foldl (step c t) (stopTest c x)).emit (.tend t.id) = leave c t i x := by
  have hs := stopTest_running c hr hc
  cases i
  · simp [hs, leave, RS.emit]
  · rw [if_pos rfl, List.foldl_cons, List.foldl_nil, step_interrupt c t (by rw [hs]; exact hr.aborted), hs]
    simp [leave, RS.emit]

theorem runTest_deco (c : Cfg) (t : TestDef) (s : RS) (hb : Between s) (hd : t.decoSkip = true) :
    runTest c s t = leave c t false (noteSkip t.id (enter c t s)) := by
  have hb0 : Between (s.emit (.tstart t.id)) := ⟨hb.aborted, hb.hasTestState, hb.captured⟩
  have he : skipFallback c t (s.emit (.tstart t.id)) = enter c t s := by
    rw [skipFallback_between c t hb0]
    simp [enter, RS.emit, hb.captured, hd]
  have hr : Running (noteSkip t.id (enter c t s)) := (running_enter c t hb).of_ext (ext_noteSkip _ _)
  rw [runTest, run_decoSkip t hd, List.foldl_cons, List.foldl_cons, List.foldl_nil, step_addSkip c t hb0, he,
    step_stopTest c t hr.aborted]
  exact stopTest_leave c t hr (capOk_enter c t s) false

theorem runTest_window (c : Cfg) (t : TestDef) (s : RS) (hb : Between s) (hd : t.decoSkip = false) :
    ∃ mid fin i, Shape (run t) mid fin i ∧
      runTest c s t = leave c t i ((mid ++ fin.toList).foldl (step c t) (enter c t s)) := by
  obtain ⟨mid, fin, i, sh⟩ := run_shape t hd
  refine ⟨mid, fin, i, sh, ?_⟩
  have hb0 : Between (s.emit (.tstart t.id)) := ⟨hb.aborted, hb.hasTestState, hb.captured⟩
  have he : startTest c t (s.emit (.tstart t.id)) = enter c t s := by
    rw [startTest_between c t hb0, skipFallback_between c t hb0]
    simp [enter, RS.emit, hd]
  obtain ⟨hr, hc⟩ := foldl_running' c t sh.mid_fin (running_enter c t hb) (capOk_enter c t s)
  rw [runTest, sh.eq, List.foldl_cons, List.foldl_append, List.foldl_cons,
    step_startTest c t (s := s.emit _) hb.aborted, he, step_stopTest c t hr.aborted]
  exact stopTest_leave c t hr hc i

/-- the Hoare rule of the test window: an invariant `P` of the calls inside the test, and what leaving the test
makes of it -/
@[elab_as_elim] theorem runTest_rule {P Q : RS → Prop} (c : Cfg) (t : TestDef) (s : RS) (hb : Between s)
    (henter : P (enter c t s))
    (hstep : ∀ x op, op ∈ run t → Mid op ∨ Final op → Running x → CapOk c x → P x → P (step c t x op))
    (hleave : ∀ i x, Running x → CapOk c x → P x → Q (leave c t i x)) : Q (runTest c s t) := by
  have hr := running_enter c t hb
  have hc := capOk_enter c t s
  cases hd : t.decoSkip
  · obtain ⟨mid, fin, i, sh, heq⟩ := runTest_window c t s hb hd
    obtain ⟨hr', hc', h⟩ := foldl_running c t sh.mid_fin hr hc henter fun x op ho =>
      hstep x op (sh.mem_ops ho) (sh.mid_fin op ho)
    exact heq ▸ hleave _ _ hr' hc' h
  · -- The one `addSkip` of a test skipped by a decorator is read as the fallback, which builds `enter c t s`,
    -- followed by an ordinary skip on that `Running` state: for `hstep` one more `Mid` call of the window.
    have hs : step c t (enter c t s) .addSkip = noteSkip t.id (enter c t s) := by
      simp [step, hr.aborted, hr.hasTestState]
    rw [runTest_deco c t s hb hd]
    exact hleave _ _ (hr.of_ext (ext_noteSkip _ _)) hc
      (hs ▸ hstep _ _ (run_decoSkip t hd ▸ List.mem_cons_self ..) (Or.inl trivial) hr hc henter)

theorem runTest_between (c : Cfg) (t : TestDef) (s : RS) (hb : Between s) : Between (runTest c s t) :=
  runTest_rule (P := fun _ => True) c t s hb trivial (fun _ _ _ _ _ _ _ => trivial)
    fun i _ hr _ _ => between_leave c t i hr

theorem runTests_inv {P : RS → Prop} (c : Cfg) : ∀ (ts : List TestDef) (s : RS),
    (∀ t ∈ ts, ∀ x, Between x → P x → P (runTest c x t)) → Between s → P s →
    Between (runTests c ts s) ∧ P (runTests c ts s)
  | [], _, _, hb, h => ⟨hb, h⟩
  | t :: ts, s, ht, hb, h => by
    unfold runTests
    split
    · exact ⟨hb, h⟩
    · exact runTests_inv c ts _ (fun t' h' => ht t' (List.mem_cons_of_mem _ h')) (runTest_between c t s hb)
        (ht t (List.mem_cons_self ..) s hb h)

end Ztr.Result
