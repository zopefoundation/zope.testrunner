import Ztr.Model.Runner
/-! Process level (`Model/Runner`), operation by operation: the equation of each layer-loop function, what it appends to
the append-only parts of the process state (`Logs` for everything outside the test phase, `Extends` for the iterations
of a layer), a case rule each for `run_layer` and for one round of the layer loop, and the rule that lifts a property
preserved by these operations to `finalState`.
The definitions that name the parts of an operation, the kinds of events and the deltas of the test phase stand here
too, several property files' statements share them. -/
namespace Ztr.Runner
open Ztr.Layers Ztr.Proto Ztr.Result

/-- a `tearDown` that raised NotImplementedError -/
def isNI : Ev → Bool
  | .tearDown _ .notImpl => true
  | _ => false

/-- a `setUp` call or something a test does -/
def isRun : Ev → Bool
  | .setUp _ _ => true
  | .test _ => true
  | _ => false

theorem ne_test_of_isRun {e : Ev} (h : isRun e = false) (r : REv) : e ≠ .test r :=
  fun he => by rw [he] at h; cases h

/-- the entry of `Runner.errors` that comes with an event outside the test phase (`cb`: which children
come back bad).  A `setUp` that raised is not recorded with its event but by `run_layer`, against the
layer that was being set up. -/
def errOf (cb : Nat → Bool) : Ev → Option Err
  | .tearDown l .raised => some (.layerTearDown l)
  | .spawn l _ => if cb l then some (.child l) else none
  | _ => none

theorem errOf_ne_test (cb : Nat → Bool) (e : Ev) (t : Nat) : errOf cb e ≠ some (.test t) := by
  unfold errOf
  split
  · simp
  · split <;> simp
  · simp

/-- `s'` is `s` after logging `new` (events with the `setup_layers` of their moment) and recording their
errors; failures and flags are untouched, `setup` is not spoken of. -/
structure Logs (cb : Nat → Bool) (s s' : PS) (new : List (Ev × Snap)) : Prop where
  glog : s'.glog = s.glog ++ new
  trace : s'.trace = s.trace ++ new.map (·.1)
  errors : s'.errors = s.errors ++ (new.map (·.1)).filterMap (errOf cb)
  failures : s'.failures = s.failures
  aborted : s'.aborted = s.aborted
  interrupted : s'.interrupted = s.interrupted

theorem Logs.refl (cb : Nat → Bool) (s : PS) : Logs cb s s [] := by
  constructor <;> simp

theorem Logs.trans {cb : Nat → Bool} {a b c : PS} {n1 n2 : List (Ev × Snap)} (h1 : Logs cb a b n1)
    (h2 : Logs cb b c n2) : Logs cb a c (n1 ++ n2) := by
  constructor
  · rw [h2.glog, h1.glog, List.append_assoc]
  · rw [h2.trace, h1.trace, List.map_append, List.append_assoc]
  · rw [h2.errors, h1.errors, List.map_append, List.filterMap_append, List.append_assoc]
  · rw [h2.failures, h1.failures]
  · rw [h2.aborted, h1.aborted]
  · rw [h2.interrupted, h1.interrupted]

theorem Logs.withSetup {cb : Nat → Bool} {s s' : PS} {new : List (Ev × Snap)} (h : Logs cb s s' new) (x : List Nat) :
    Logs cb s { s' with setup := x } new :=
  ⟨h.glog, h.trace, h.errors, h.failures, h.aborted, h.interrupted⟩

theorem logs_emit (cb : Nat → Bool) (s : PS) (e : Ev) (h : errOf cb e = none) :
    Logs cb s (s.emit e) [(e, { setup := s.setup })] := by
  constructor <;> simp [PS.emit, h]

theorem logs_emit_err (cb : Nat → Bool) (s : PS) (e : Ev) {x : Err} (h : errOf cb e = some x) :
    Logs cb s { s.emit e with errors := (s.emit e).errors ++ [x] } [(e, { setup := s.setup })] := by
  constructor <;> simp [PS.emit, h]

/-- one round of the tear-down loop: the call (if the layer has the hook), the error record, and the
`finally: del setup_layers[layer]` -/
def tdOne (w : World) (l : Nat) (s : PS) : PS :=
  let s1 : PS :=
    if (w.info l).hasTearDown then
      let r := w.tearDownResult l (countTearDown l s.trace)
      let s' := s.emit (.tearDown l r)
      if r = .raised then { s' with errors := s'.errors ++ [.layerTearDown l] } else s'
    else s
  { s1 with setup := s1.setup.filter (· != l) }

/-- does this round end the loop with `CanNotTearDown`? -/
def tdStops (w : World) (optional : Bool) (l : Nat) (s : PS) : Bool :=
  (w.info l).hasTearDown && (w.tearDownResult l (countTearDown l s.trace) == .notImpl) && !optional

theorem tearDownList_cons (w : World) (opt : Bool) (l : Nat) (ls : List Nat) (s : PS) :
    tearDownList w opt (l :: ls) s =
      if tdStops w opt l s then (tdOne w l s, true) else tearDownList w opt ls (tdOne w l s) := by
  rw [tearDownList]
  unfold tdStops tdOne
  by_cases h : (w.info l).hasTearDown = true
  · simp only [h, if_true, Bool.true_and]
    cases hr : w.tearDownResult l (countTearDown l s.trace) <;> cases opt <;> simp
  · simp [h]

theorem tdOne_setup (w : World) (l : Nat) (s : PS) : (tdOne w l s).setup = s.setup.filter (· != l) := by
  unfold tdOne
  by_cases ht : (w.info l).hasTearDown = true
  · simp only [ht, if_true]
    split <;> rfl
  · simp [ht]

theorem tearDownList_setup (w : World) (opt : Bool) :
    ∀ (order : List Nat) (s : PS), (tearDownList w opt order s).2 = false →
      ∀ x, x ∈ (tearDownList w opt order s).1.setup ↔ x ∈ s.setup ∧ x ∉ order
  | [], s, _, x => by simp [tearDownList]
  | l :: ls, s, hf, x => by
    rw [tearDownList_cons] at hf ⊢
    split at hf
    · cases hf
    · rename_i hst
      rw [if_neg hst, tearDownList_setup w opt ls _ hf x, tdOne_setup]
      simp [and_assoc]

theorem tearDownList_optional (w : World) : ∀ (order : List Nat) (s : PS), (tearDownList w true order s).2 = false
  | [], s => rfl
  | l :: ls, s => by
    rw [tearDownList_cons]
    have : tdStops w true l s = false := by simp [tdStops]
    simp only [this, Bool.false_eq_true, if_false]
    exact tearDownList_optional w ls _

theorem tearDownUnneeded_optional (w : World) (needed : List Nat) (s : PS) :
    (tearDownUnneeded w needed true s).2 = false :=
  tearDownList_optional w _ s

theorem tdOne_logs (cb : Nat → Bool) (w : World) (opt : Bool) (l : Nat) (s : PS) :
    ∃ new, Logs cb s (tdOne w l s) new ∧ (∀ p ∈ new, isRun p.1 = false) ∧
      (tdStops w opt l s = false → opt = false → ∀ p ∈ new, isNI p.1 = false) := by
  unfold tdOne tdStops
  by_cases ht : (w.info l).hasTearDown = true
  · simp only [ht, if_true, Bool.true_and]
    refine ⟨[(.tearDown l (w.tearDownResult l (countTearDown l s.trace)), { setup := s.setup })], ?_, by simp [isRun], ?_⟩
    · cases w.tearDownResult l (countTearDown l s.trace) with
      | ok => exact (logs_emit cb s (.tearDown l .ok) rfl).withSetup _
      | notImpl => exact (logs_emit cb s (.tearDown l .notImpl) rfl).withSetup _
      | raised => exact (logs_emit_err cb s (.tearDown l .raised) rfl).withSetup _
    · intro hst ho p hp
      subst ho
      rw [List.mem_singleton.1 hp]
      cases hr : w.tearDownResult l (countTearDown l s.trace)
      · rfl
      · rfl
      · rw [hr] at hst
        exact absurd hst (by decide)
  · exact ⟨[], by constructor <;> simp [ht], by simp, by simp⟩

theorem tearDownList_logs (cb : Nat → Bool) (w : World) (opt : Bool) :
    ∀ (order : List Nat) (s : PS), ∃ new, Logs cb s (tearDownList w opt order s).1 new ∧
      (∀ p ∈ new, isRun p.1 = false) ∧
      ((tearDownList w opt order s).2 = false → opt = false → ∀ p ∈ new, isNI p.1 = false)
  | [], s => ⟨[], Logs.refl cb s, by simp, by simp⟩
  | l :: ls, s => by
    rw [tearDownList_cons]
    obtain ⟨n1, h1, k1, q1⟩ := tdOne_logs cb w opt l s
    by_cases hst : tdStops w opt l s = true
    · rw [if_pos hst]
      exact ⟨n1, h1, k1, nofun⟩
    · rw [if_neg hst]
      obtain ⟨n2, h2, k2, q2⟩ := tearDownList_logs cb w opt ls (tdOne w l s)
      exact ⟨_, h1.trans h2, fun p hp => (List.mem_append.1 hp).elim (k1 p) (k2 p), fun hf ho p hp =>
        (List.mem_append.1 hp).elim (q1 (eq_false_of_ne_true hst) ho p) (q2 hf ho p)⟩

theorem tearDownUnneeded_logs (cb : Nat → Bool) (w : World) (needed : List Nat) (opt : Bool) (s : PS) :
    ∃ new, Logs cb s (tearDownUnneeded w needed opt s).1 new ∧ (∀ p ∈ new, isRun p.1 = false) ∧
      ((tearDownUnneeded w needed opt s).2 = false → opt = false → ∀ p ∈ new, isNI p.1 = false) :=
  tearDownList_logs cb w opt _ s

/-- the last step of `setup_layer`, after the bases: `layer.setUp()` (if the layer has the hook) and, unless it
raised, the mark in `setup_layers` -/
def suOne (w : World) (l : Nat) (s : PS) : PS × Bool :=
  if (w.info l).hasSetUp then
    if w.setUpRaises l (countSetUp l s.trace) then (s.emit (.setUp l false), false)
    else ({ s.emit (.setUp l true) with setup := s.setup ++ [l] }, true)
  else ({ s with setup := s.setup ++ [l] }, true)

theorem setupLayerF_succ (w : World) (f l : Nat) (s : PS) :
    setupLayerF w (f + 1) l s =
      if s.setup.contains l then (s, true)
      else if (setupBases (setupLayerF w f) (w.graph.bases l) s).2 then
        suOne w l (setupBases (setupLayerF w f) (w.graph.bases l) s).1
      else setupBases (setupLayerF w f) (w.graph.bases l) s := by
  rw [setupLayerF]
  generalize setupBases (setupLayerF w f) (w.graph.bases l) s = R
  obtain ⟨x, b⟩ := R
  unfold suOne
  simp only []
  cases b <;> cases w.setUpRaises l (countSetUp l x.trace) <;> rfl

/-- a `setUp` that raised -/
def setUpFailed : Ev → Bool
  | .setUp _ false => true
  | _ => false

/-- the shape of what `setup_layer` logs, given whether it succeeded: `setUp` events, of which exactly
one raised when it failed (and then the oracle said so) -/
structure SetupLog (w : World) (new : List (Ev × Snap)) (ok : Bool) : Prop where
  kind : ∀ p ∈ new, ∃ b r, p.1 = Ev.setUp b r
  failed : (new.map (·.1)).countP setUpFailed = if ok then 0 else 1
  oracle : ok = false → ∃ b k, w.setUpRaises b k = true

theorem SetupLog.nil (w : World) : SetupLog w [] true := ⟨by simp, rfl, by simp⟩

theorem SetupLog.append {w : World} {n1 n2 : List (Ev × Snap)} {ok : Bool} (h1 : SetupLog w n1 true)
    (h2 : SetupLog w n2 ok) : SetupLog w (n1 ++ n2) ok :=
  ⟨fun p hp => (List.mem_append.1 hp).elim (h1.kind p) (h2.kind p),
    by rw [List.map_append, List.countP_append, h1.failed, h2.failed]; simp, h2.oracle⟩

theorem SetupLog.one (w : World) (l : Nat) (r : Bool) (g : Snap) (h : r = false → ∃ k, w.setUpRaises l k = true) :
    SetupLog w [(.setUp l r, g)] r :=
  ⟨fun p hp => ⟨l, r, by rw [List.mem_singleton.1 hp]⟩, by cases r <;> rfl, fun hr => ⟨l, h hr⟩⟩

theorem suOne_logs (cb : Nat → Bool) (w : World) (l : Nat) (s : PS) :
    ∃ new, Logs cb s (suOne w l s).1 new ∧ SetupLog w new (suOne w l s).2 := by
  unfold suOne
  split
  · have h := fun r => logs_emit cb s (.setUp l r) rfl
    cases hx : w.setUpRaises l (countSetUp l s.trace)
    · exact ⟨_, (h true).withSetup _, .one w l true _ nofun⟩
    · exact ⟨_, h false, .one w l false _ fun _ => ⟨_, hx⟩⟩
  · exact ⟨[], (Logs.refl cb s).withSetup _, .nil w⟩

theorem setupLayerF_logs (cb : Nat → Bool) (w : World) :
    ∀ (f l : Nat) (s : PS), ∃ new, Logs cb s (setupLayerF w f l s).1 new ∧ SetupLog w new (setupLayerF w f l s).2
  | 0, _, s => ⟨[], Logs.refl cb s, .nil w⟩
  | f + 1, l, s => by
    have hb : ∀ (bs : List Nat) (s : PS), ∃ new, Logs cb s (setupBases (setupLayerF w f) bs s).1 new ∧
        SetupLog w new (setupBases (setupLayerF w f) bs s).2 := by
      intro bs
      induction bs with
      | nil => exact fun s => ⟨[], Logs.refl cb s, .nil w⟩
      | cons b bs ihb =>
        intro s
        obtain ⟨n1, h1, k1⟩ := setupLayerF_logs cb w f b s
        rw [setupBases]
        split
        · rename_i hok
          obtain ⟨n2, h2, k2⟩ := ihb (setupLayerF w f b s).1
          exact ⟨_, h1.trans h2, (hok ▸ k1).append k2⟩
        · exact ⟨n1, h1, k1⟩
    rw [setupLayerF_succ]
    obtain ⟨n1, h1, k1⟩ := hb (w.graph.bases l) s
    split
    · exact ⟨[], Logs.refl cb s, .nil w⟩
    · split
      · rename_i hok
        obtain ⟨n2, h2, k2⟩ := suOne_logs cb w l (setupBases (setupLayerF w f) (w.graph.bases l) s).1
        exact ⟨_, h1.trans h2, (hok ▸ k1).append k2⟩
      · exact ⟨n1, h1, k1⟩

theorem setupLayer_logs (cb : Nat → Bool) (w : World) (l : Nat) (s : PS) :
    ∃ new, Logs cb s (setupLayer w l s).1 new ∧ SetupLog w new (setupLayer w l s).2 :=
  setupLayerF_logs cb w _ l s

/-- one child started: the event and, when the child comes back bad, the error record -/
def spOne (cb : Nat → Bool) (l n : Nat) (s : PS) : PS :=
  if cb l then { s.emit (.spawn l n) with errors := (s.emit (.spawn l n)).errors ++ [.child l] } else s.emit (.spawn l n)

/-- `--stop-on-error` in a sequential run: no further child once a failure or an error is known -/
def spStops (o : Opts) (s : PS) : Bool :=
  o.stopOnError && decide (o.processes ≤ 1) && (!s.failures.isEmpty || !s.errors.isEmpty)

theorem spawnAll_cons (o : Opts) (cb : Nat → Bool) (l : Nat) (ts : List TestDef) (rest : List (Nat × List TestDef))
    (n : Nat) (s : PS) :
    spawnAll o cb ((l, ts) :: rest) n s = if spStops o s then s else spawnAll o cb rest (n + 1) (spOne cb l n s) := by
  rfl

theorem spOne_logs (cb : Nat → Bool) (l n : Nat) (s : PS) :
    Logs cb s (spOne cb l n s) [(.spawn l n, { setup := s.setup })] := by
  unfold spOne
  cases hc : cb l
  · exact logs_emit cb s _ (if_neg (hc ▸ Bool.false_ne_true))
  · exact logs_emit_err cb s _ (if_pos hc)

theorem spawnAll_logs (o : Opts) (cb : Nat → Bool) :
    ∀ (rest : List (Nat × List Proto.TestDef)) (n : Nat) (s : PS),
      ∃ new, Logs cb s (spawnAll o cb rest n s) new ∧ ∀ p ∈ new, isRun p.1 = false
  | [], _, s => ⟨[], Logs.refl cb s, by simp⟩
  | (l, _) :: rest, n, s => by
    rw [spawnAll_cons]
    split
    · exact ⟨[], Logs.refl cb s, by simp⟩
    · obtain ⟨n2, h2, k2⟩ := spawnAll_logs o cb rest (n + 1) (spOne cb l n s)
      exact ⟨_, (spOne_logs cb l n s).trans h2,
        fun p hp => (List.mem_append.1 hp).elim (fun h => List.mem_singleton.1 h ▸ rfl) (k2 p)⟩

/-- the state after the events of one iteration have been logged -/
def iterLogged (w : World) (o : Opts) (l : Nat) (tests : List Proto.TestDef) (s : PS) : PS :=
  { s with
    trace := s.trace ++ (Result.runTests (resultCfg w o l) tests {}).evs.map Ev.test
    glog := s.glog ++ (Result.runTests (resultCfg w o l) tests {}).evs.map
      (fun e => (Ev.test e, ({ setup := s.setup, layer := some l } : Snap))) }

/-- … and after its results have been merged and the summary printed -/
def iterDone (w : World) (o : Opts) (l : Nat) (tests : List Proto.TestDef) (s : PS) : PS :=
  let r := Result.runTests (resultCfg w o l) tests {}
  let s1 := iterLogged w o l tests s
  PS.emit { s1 with
      failures := s1.failures ++ r.failures ++ r.unexpected
      errors := s1.errors ++ r.errors.map Err.test
      skipped := s1.skipped + r.skipped.length
      ran := r.testsRun }
    (.summary r.testsRun (r.failures.length + r.unexpected.length) (r.errors.length + w.importErrors) r.skipped.length)

theorem runIterations_succ (w : World) (o : Opts) (l : Nat) (tests : List Proto.TestDef) (n : Nat) (s : PS) :
    runIterations w o l tests (n + 1) s =
      if (Result.runTests (resultCfg w o l) tests {}).aborted then { iterLogged w o l tests s with aborted := true }
      else if (Result.runTests (resultCfg w o l) tests {}).interrupted then { iterLogged w o l tests s with interrupted := true }
      else if (Result.runTests (resultCfg w o l) tests {}).shouldStop then iterDone w o l tests s
      else runIterations w o l tests n (iterDone w o l tests s) := by
  rfl

/-- what the iterations of one layer add to the state of the process that runs them -/
structure Delta where
  trace : List Ev := []
  failures : List Nat := []
  errors : List Err := []
  skipped : Nat := 0
  ran : Option Nat := none          -- `none`: `ran` is left as it was
  aborted : Bool := false
  interrupted : Bool := false

structure Extends (s s' : PS) (d : Delta) : Prop where
  trace : s'.trace = s.trace ++ d.trace
  failures : s'.failures = s.failures ++ d.failures
  errors : s'.errors = s.errors ++ d.errors
  skipped : s'.skipped = s.skipped + d.skipped
  setup : s'.setup = s.setup
  aborted : s'.aborted = (s.aborted || d.aborted)
  interrupted : s'.interrupted = (s.interrupted || d.interrupted)
  ran : s'.ran = d.ran.getD s.ran

def Delta.append (a b : Delta) : Delta :=
  { trace := a.trace ++ b.trace, failures := a.failures ++ b.failures, errors := a.errors ++ b.errors,
    skipped := a.skipped + b.skipped, ran := b.ran.orElse (fun _ => a.ran),
    aborted := a.aborted || b.aborted, interrupted := a.interrupted || b.interrupted }

theorem Extends.trans {s1 s2 s3 : PS} {a b : Delta} (h1 : Extends s1 s2 a) (h2 : Extends s2 s3 b) :
    Extends s1 s3 (a.append b) := by
  refine ⟨?_, ?_, ?_, ?_, ?_, ?_, ?_, ?_⟩
  · rw [h2.trace, h1.trace]; simp [Delta.append]
  · rw [h2.failures, h1.failures]; simp [Delta.append]
  · rw [h2.errors, h1.errors]; simp [Delta.append]
  · rw [h2.skipped, h1.skipped]; simp [Delta.append]; omega
  · rw [h2.setup, h1.setup]
  · rw [h2.aborted, h1.aborted]; simp [Delta.append, Bool.or_assoc]
  · rw [h2.interrupted, h1.interrupted]; simp [Delta.append, Bool.or_assoc]
  · rw [h2.ran, h1.ran]
    simp only [Delta.append]
    cases b.ran <;> simp

/-- the delta of one completed iteration -/
def iterDelta (w : World) (o : Opts) (l : Nat) (tests : List TestDef) : Delta :=
  let r := Result.runTests (resultCfg w o l) tests {}
  { trace := r.evs.map Ev.test ++
      [.summary r.testsRun (r.failures.length + r.unexpected.length) (r.errors.length + w.importErrors) r.skipped.length]
    failures := r.failures ++ r.unexpected
    errors := r.errors.map Err.test
    skipped := r.skipped.length
    ran := some r.testsRun }

theorem extends_iterDone (w : World) (o : Opts) (l : Nat) (tests : List TestDef) (s : PS) :
    Extends s (iterDone w o l tests s) (iterDelta w o l tests) := by
  refine ⟨?_, ?_, ?_, ?_, rfl, ?_, ?_, rfl⟩ <;> simp [iterDone, iterLogged, PS.emit, iterDelta]

/-- the delta of `n` iterations of layer `l`: a function of the layer, the options and `n` alone -/
def layerDelta (w : World) (o : Opts) (l : Nat) (tests : List TestDef) : Nat → Delta
  | 0 => {}
  | n + 1 =>
    let r := Result.runTests (resultCfg w o l) tests {}
    if r.aborted then { trace := r.evs.map Ev.test, aborted := true }
    else if r.interrupted then { trace := r.evs.map Ev.test, interrupted := true }
    else if r.shouldStop then iterDelta w o l tests
    else (iterDelta w o l tests).append (layerDelta w o l tests n)

/-- induction over the iterations of a layer, on the state and the delta together: completed iterations, possibly
ended by one that was aborted or interrupted and is logged but not merged -/
theorem runIterations_induction (w : World) (o : Opts) (l : Nat) (tests : List TestDef) {P : PS → PS → Delta → Prop}
    (zero : ∀ s, P s s {})
    (aborted : (runTests (resultCfg w o l) tests {}).aborted = true → ∀ s,
      P s { iterLogged w o l tests s with aborted := true }
        { trace := (runTests (resultCfg w o l) tests {}).evs.map Ev.test, aborted := true })
    (interrupted : (runTests (resultCfg w o l) tests {}).interrupted = true → ∀ s,
      P s { iterLogged w o l tests s with interrupted := true }
        { trace := (runTests (resultCfg w o l) tests {}).evs.map Ev.test, interrupted := true })
    (last : ∀ s, P s (iterDone w o l tests s) (iterDelta w o l tests))
    (more : ∀ s s' d, P (iterDone w o l tests s) s' d → P s s' ((iterDelta w o l tests).append d)) :
    ∀ n s, P s (runIterations w o l tests n s) (layerDelta w o l tests n)
  | 0, s => zero s
  | n + 1, s => by
    rw [runIterations_succ]
    unfold layerDelta
    by_cases h1 : (runTests (resultCfg w o l) tests {}).aborted = true
    · simp only [h1, if_true]
      exact aborted h1 s
    · by_cases h2 : (runTests (resultCfg w o l) tests {}).interrupted = true
      · simp only [h1, h2, if_true, if_false, Bool.false_eq_true]
        exact interrupted h2 s
      · by_cases h3 : (runTests (resultCfg w o l) tests {}).shouldStop = true
        · simp only [h1, h2, h3, if_true, if_false, Bool.false_eq_true]
          exact last s
        · simp only [h1, h2, h3, if_false, Bool.false_eq_true]
          exact more s _ _ (runIterations_induction w o l tests zero aborted interrupted last more n _)

/-- **frame theorem** — whatever the state of the process, `n` iterations of a layer extend it by
`layerDelta`. -/
theorem runIterations_extends (w : World) (o : Opts) (l : Nat) (tests : List TestDef) :
    ∀ (n : Nat) (s : PS), Extends s (runIterations w o l tests n s) (layerDelta w o l tests n) :=
  runIterations_induction w o l tests (P := Extends)
    (fun s => by refine ⟨?_, ?_, ?_, ?_, rfl, ?_, ?_, rfl⟩ <;> simp)
    (fun _ s => by refine ⟨?_, ?_, ?_, ?_, rfl, ?_, ?_, rfl⟩ <;> simp [iterLogged])
    (fun _ s => by refine ⟨?_, ?_, ?_, ?_, rfl, ?_, ?_, rfl⟩ <;> simp [iterLogged])
    (extends_iterDone w o l tests) fun s _ _ h => (extends_iterDone w o l tests s).trans h

theorem layerDelta_induction (w : World) (o : Opts) (l : Nat) (tests : List TestDef) {P : Delta → Prop}
    (nil : P {})
    (aborted : (runTests (resultCfg w o l) tests {}).aborted = true →
      P { trace := (runTests (resultCfg w o l) tests {}).evs.map Ev.test, aborted := true })
    (interrupted : (runTests (resultCfg w o l) tests {}).interrupted = true →
      P { trace := (runTests (resultCfg w o l) tests {}).evs.map Ev.test, interrupted := true })
    (last : P (iterDelta w o l tests))
    (more : ∀ d, P d → P ((iterDelta w o l tests).append d)) (n : Nat) : P (layerDelta w o l tests n) :=
  runIterations_induction w o l tests (P := fun _ _ d => P d) (fun _ => nil) (fun h _ => aborted h)
    (fun h _ => interrupted h) (fun _ => last) (fun _ _ d => more d) n {}

/-- an event of the test phase: something a test does, or the summary of an iteration -/
def IsIter (e : Ev) : Prop := (∃ r, e = Ev.test r) ∨ ∃ a b c d, e = Ev.summary a b c d

theorem layerDelta_trace (w : World) (o : Opts) (l : Nat) (tests : List TestDef) (n : Nat) :
    ∀ e ∈ (layerDelta w o l tests n).trace, IsIter e := by
  have htests : ∀ e ∈ (runTests (resultCfg w o l) tests {}).evs.map Ev.test, IsIter e := fun e he => by
    obtain ⟨r, _, rfl⟩ := List.mem_map.1 he
    exact Or.inl ⟨r, rfl⟩
  have hiter : ∀ e ∈ (iterDelta w o l tests).trace, IsIter e :=
    fun e he => (List.mem_append.1 he).elim (htests e) fun h => Or.inr ⟨_, _, _, _, List.mem_singleton.1 h⟩
  exact layerDelta_induction w o l tests (P := fun d => ∀ e ∈ d.trace, IsIter e)
    (fun _ h => by cases h) (fun _ => htests) (fun _ => htests) hiter
    (fun d hd e he => (List.mem_append.1 he).elim (hiter e) (hd e)) n

/-- the ghost-log entry of an event of the test phase of layer `l`, logged under `setup` -/
def iterSnap (setup : List Nat) (l : Nat) : Ev → Ev × Snap
  | .test r => (.test r, { setup := setup, layer := some l })
  | e => (e, { setup := setup })

theorem map_fst_iterSnap (setup : List Nat) (l : Nat) (evs : List Ev) : (evs.map (iterSnap setup l)).map (·.1) = evs := by
  rw [List.map_map]
  refine (List.map_congr_left fun e _ => ?_).trans (List.map_id _)
  cases e <;> rfl

theorem runIterations_glog (w : World) (o : Opts) (l : Nat) (tests : List TestDef) :
    ∀ (n : Nat) (s : PS), (runIterations w o l tests n s).glog =
      s.glog ++ (layerDelta w o l tests n).trace.map (iterSnap s.setup l) := by
  have hdone : ∀ s, (iterDone w o l tests s).glog = s.glog ++ (iterDelta w o l tests).trace.map (iterSnap s.setup l) :=
    fun s => by simp [iterDone, iterLogged, PS.emit, iterDelta, iterSnap, Function.comp_def]
  refine runIterations_induction w o l tests (P := fun s s' d => s'.glog = s.glog ++ d.trace.map (iterSnap s.setup l))
    (fun s => by simp) (fun _ s => by simp [iterLogged, iterSnap, Function.comp_def])
    (fun _ s => by simp [iterLogged, iterSnap, Function.comp_def]) hdone fun s s' d h => ?_
  rw [h, hdone]
  simp [Delta.append, iterDone, iterLogged, PS.emit]

-- From here on (`run_layer`, the layer loop, the end of the process) `run_layer`'s callees stay folded: everything
-- below goes through their lemmas, and the unifier, meeting `(runLayer …).1.trace` and the like, would otherwise look
-- into them at many times the cost.
attribute [local irreducible] runIterations setupLayer tearDownUnneeded

def reps (o : Opts) : Nat := if o.repeat_ = 0 then 1 else o.repeat_

def rlHeader (o : Opts) (l : Nat) (s : PS) : PS :=
  match o.resume with
  | some (_, 0) => s
  | _ => s.emit (.header l)

/-- the state in which the tests of layer `l` start -/
def rlReady (w : World) (o : Opts) (l : Nat) (s : PS) : PS :=
  (setupLayer w l (tearDownUnneeded w (gather w.graph l) false (rlHeader o l s)).1).1

/-- the first stage of `run_layer`: the header, then the tear-down of what the layer does not need -/
def rlTorn (w : World) (o : Opts) (l : Nat) (s : PS) : PS × Bool :=
  tearDownUnneeded w (gather w.graph l) false (rlHeader o l s)

theorem runLayer_eq (w : World) (o : Opts) (l : Nat) (tests : List Proto.TestDef) (s : PS) :
    runLayer w o l tests s =
      if (rlTorn w o l s).2 then rlTorn w o l s
      else if !(setupLayer w l (rlTorn w o l s).1).2 then
        ({ rlReady w o l s with errors := (rlReady w o l s).errors ++ [.layerSetUp l] }, false)
      else
        ({ runIterations w o l tests (reps o) { rlReady w o l s with ran := 0 } with
            ran := (rlReady w o l s).ran + (runIterations w o l tests (reps o) { rlReady w o l s with ran := 0 }).ran },
         false) := by
  rfl

/-- the three ways `run_layer` goes: `CanNotTearDown` out of the first stage; a `setUp` that raised, recorded
against the layer; or the iterations of the layer's tests, started from `rlReady` -/
theorem runLayer_cases (w : World) (o : Opts) (l : Nat) (tests : List TestDef) (s : PS) {P : PS × Bool → Prop}
    (cannot : (rlTorn w o l s).2 = true → P ((rlTorn w o l s).1, true))
    (setupFailed : (rlTorn w o l s).2 = false → (setupLayer w l (rlTorn w o l s).1).2 = false →
      P ({ rlReady w o l s with errors := (rlReady w o l s).errors ++ [.layerSetUp l] }, false))
    (ran : (rlTorn w o l s).2 = false → (setupLayer w l (rlTorn w o l s).1).2 = true →
      P ({ runIterations w o l tests (reps o) { rlReady w o l s with ran := 0 } with
            ran := (rlReady w o l s).ran + (runIterations w o l tests (reps o) { rlReady w o l s with ran := 0 }).ran },
          false)) :
    P (runLayer w o l tests s) := by
  rw [runLayer_eq]
  generalize rlTorn w o l s = T at cannot setupFailed ran ⊢
  by_cases hc : T.2 = true
  · rw [if_pos hc, show T = (T.1, true) from Prod.ext rfl hc]
    exact cannot hc
  · rw [if_neg hc]
    cases hf : (setupLayer w l T.1).2
    · exact setupFailed (eq_false_of_ne_true hc) hf
    · exact ran (eq_false_of_ne_true hc) hf

theorem runLayer_snd (w : World) (o : Opts) (l : Nat) (tests : List TestDef) (s : PS) :
    (runLayer w o l tests s).2 = (rlTorn w o l s).2 :=
  runLayer_cases w o l tests s (P := fun r => r.2 = (rlTorn w o l s).2) (fun h => h.symm) (fun h _ => h.symm)
    fun h _ => h.symm

theorem rlHeader_logs (cb : Nat → Bool) (o : Opts) (l : Nat) (s : PS) :
    ∃ new, Logs cb s (rlHeader o l s) new ∧ ∀ p ∈ new, isRun p.1 = false ∧ isNI p.1 = false := by
  unfold rlHeader
  split
  · exact ⟨[], Logs.refl cb s, by simp⟩
  · exact ⟨_, logs_emit cb s _ rfl, by simp [isRun, isNI]⟩

theorem rlTorn_logs (cb : Nat → Bool) (w : World) (o : Opts) (l : Nat) (s : PS) :
    ∃ new, Logs cb s (rlTorn w o l s).1 new ∧ (∀ p ∈ new, isRun p.1 = false) ∧
      ((rlTorn w o l s).2 = false → ∀ p ∈ new, isNI p.1 = false) := by
  obtain ⟨n0, h0, k0⟩ := rlHeader_logs cb o l s
  obtain ⟨n1, h1, k1, q1⟩ := tearDownUnneeded_logs cb w (gather w.graph l) false (rlHeader o l s)
  exact ⟨_, h0.trans h1, fun p hp => (List.mem_append.1 hp).elim (fun h => (k0 p h).1) (k1 p),
    fun hc p hp => (List.mem_append.1 hp).elim (fun h => (k0 p h).2) (q1 hc rfl p)⟩

theorem rlReady_logs (cb : Nat → Bool) (w : World) (o : Opts) (l : Nat) (s : PS) (hc : (rlTorn w o l s).2 = false) :
    ∃ new, Logs cb s (rlReady w o l s) new ∧ ∀ p ∈ new, isNI p.1 = false ∧ ∀ r, p.1 ≠ Ev.test r := by
  obtain ⟨n1, h1, k1, q1⟩ := rlTorn_logs cb w o l s
  obtain ⟨n2, h2, k2⟩ := setupLayer_logs cb w l (rlTorn w o l s).1
  refine ⟨_, h1.trans h2, fun p hp => ?_⟩
  rcases List.mem_append.1 hp with hp | hp
  · exact ⟨q1 hc p hp, ne_test_of_isRun (k1 p hp)⟩
  · obtain ⟨b, r, e⟩ := k2.kind p hp
    rw [e]
    exact ⟨rfl, nofun⟩

/-- what `run_layer l` has logged when it returns `r`: neither a `setUp` nor a test event if it ends with
`CanNotTearDown`, no NotImplementedError otherwise; its test events under layer `l` -/
structure RunLogs (l : Nat) (s : PS) (r : PS × Bool) (new : List (Ev × Snap)) : Prop where
  glog : r.1.glog = s.glog ++ new
  trace : r.1.trace = s.trace ++ new.map (·.1)
  quiet : r.2 = true → ∀ p ∈ new, isRun p.1 = false
  noNI : r.2 = false → ∀ p ∈ new, isNI p.1 = false
  tests : ∀ p ∈ new, ∀ x, p.1 = Ev.test x → p.2.layer = some l

theorem runLayer_logs (w : World) (o : Opts) (l : Nat) (tests : List TestDef) (s : PS) :
    ∃ new, RunLogs l s (runLayer w o l tests s) new := by
  refine runLayer_cases w o l tests s (P := fun r => ∃ new, RunLogs l s r new) ?_ ?_ ?_
  · intro _
    obtain ⟨new, hl, hk, _⟩ := rlTorn_logs (fun _ => false) w o l s
    exact ⟨new, hl.glog, hl.trace, fun _ => hk, nofun, fun p hp x e => absurd e (ne_test_of_isRun (hk p hp) x)⟩
  · intro hc _
    obtain ⟨new, hl, hk⟩ := rlReady_logs (fun _ => false) w o l s hc
    exact ⟨new, hl.glog, hl.trace, nofun, fun _ p hp => (hk p hp).1, fun p hp x e => absurd e ((hk p hp).2 x)⟩
  · intro hc _
    obtain ⟨new, hl, hk⟩ := rlReady_logs (fun _ => false) w o l s hc
    have hd := layerDelta_trace w o l tests (reps o)
    refine ⟨new ++ (layerDelta w o l tests (reps o)).trace.map (iterSnap (rlReady w o l s).setup l), ?_, ?_, nofun,
      fun _ p hp => ?_, fun p hp x e => ?_⟩
    · rw [← List.append_assoc, ← hl.glog]
      exact runIterations_glog w o l tests (reps o) _
    · rw [List.map_append, map_fst_iterSnap, ← List.append_assoc, ← hl.trace]
      exact (runIterations_extends w o l tests (reps o) _).trace
    · rcases List.mem_append.1 hp with hp | hp
      · exact (hk p hp).1
      · obtain ⟨e, he, rfl⟩ := List.mem_map.1 hp
        rcases hd e he with ⟨r, rfl⟩ | ⟨a, b, c, d, rfl⟩ <;> rfl
    · rcases List.mem_append.1 hp with hp | hp
      · exact absurd e ((hk p hp).2 x)
      · obtain ⟨y, _, rfl⟩ := List.mem_map.1 hp
        cases y <;> cases e
        rfl

/-- the ways one round of the layer loop can go: the loop ends with nothing left (abandoned, or `-x` fired), with
everything from the layer that could not get its stack in the parent (`CanNotTearDown`), or — under `-j` — with all
but the layer just run; or it goes on, after a layer that ran or in a child that could not get the layer's stack -/
theorem layerLoop_cases (w : World) (o : Opts) (l : Nat) (tests : List Proto.TestDef)
    (rest : List (Nat × List Proto.TestDef)) (s : PS) {P : PS → List (Nat × List Proto.TestDef) → Prop}
    (stop : P (runLayer w o l tests s).1 [])
    (cannot : (runLayer w o l tests s).2 = true → o.resume = none → P (runLayer w o l tests s).1 ((l, tests) :: rest))
    (parallel : (runLayer w o l tests s).2 = false → P (runLayer w o l tests s).1 rest)
    (next : (runLayer w o l tests s).2 = false ∨ o.resume.isSome = true →
      P (layerLoop w o rest (runLayer w o l tests s).1).1 (layerLoop w o rest (runLayer w o l tests s).1).2) :
    P (layerLoop w o ((l, tests) :: rest) s).1 (layerLoop w o ((l, tests) :: rest) s).2 := by
  rw [layerLoop]
  generalize runLayer w o l tests s = r at stop cannot parallel next
  -- (`split` costs six times as much here)
  by_cases h1 : (r.1.aborted || r.1.interrupted) = true
  · rw [if_pos h1]
    exact stop
  · rw [if_neg h1]
    by_cases h2 : r.2 = true
    · rw [if_pos h2]
      cases hr : o.resume with
      | none => exact cannot h2 hr
      | some p => exact next (Or.inr (by rw [hr]; rfl))
    · rw [if_neg h2]
      by_cases h3 : o.processes > 1
      · rw [if_pos h3]
        exact parallel (eq_false_of_ne_true h2)
      · rw [if_neg h3]
        by_cases h4 : (o.stopOnError && (!r.1.failures.isEmpty || !r.1.errors.isEmpty)) = true
        · rw [if_pos h4]
          exact stop
        · rw [if_neg h4]
          exact next (Or.inl (eq_false_of_ne_true h2))

theorem finalState_eq (w : World) (o : Opts) (cb : Nat → Bool) :
    finalState w o cb =
      if (fsLoop w o).1.aborted || (fsLoop w o).1.interrupted then (fsLoop w o).1
      else (tearDownUnneeded w [] true (fsSpawned w o cb)).1 := by
  rfl

theorem finalState_logs (w : World) (o : Opts) (cb : Nat → Bool) :
    ∃ new, Logs cb (fsLoop w o).1 (finalState w o cb) new ∧ ∀ p ∈ new, isRun p.1 = false := by
  rw [finalState_eq]
  split
  · exact ⟨[], Logs.refl cb _, by simp⟩
  · obtain ⟨n1, h1, k1⟩ : ∃ new, Logs cb (fsLoop w o).1 (fsSpawned w o cb) new ∧ ∀ p ∈ new, isRun p.1 = false := by
      unfold fsSpawned
      split
      · exact spawnAll_logs o cb _ _ _
      · exact ⟨[], Logs.refl cb _, by simp⟩
    obtain ⟨n2, h2, k2, _⟩ := tearDownUnneeded_logs cb w [] true (fsSpawned w o cb)
    exact ⟨_, h1.trans h2, fun p hp => (List.mem_append.1 hp).elim (k1 p) (k2 p)⟩

section
variable {w : World} {o : Opts} {cb : Nat → Bool} {P : PS → Prop}

theorem layerLoop_preserves : ∀ (layers : List (Nat × List TestDef)),
    (∀ g ∈ layers, ∀ s, P s → P (runLayer w o g.1 g.2 s).1) → ∀ s, P s → P (layerLoop w o layers s).1
  | [], _, _, hs => hs
  | (l, tests) :: rest, h, s, hs => by
    have h1 := h (l, tests) (by simp) s hs
    exact layerLoop_cases w o l tests rest s (P := fun s' _ => P s') h1 (fun _ _ => h1) (fun _ => h1) fun _ =>
      layerLoop_preserves rest (fun g hg => h g (by simp [hg])) _ h1

/-- a property of process states that holds of the empty state and that every operation of the layer loop preserves
— those that log no `setUp` and no test event, `setup_layer` together with the error `run_layer` records against the
layer when it fails, the iterations of a layer (whatever extends a state by `layerDelta`), `ran +=` — holds of the
final state of the process -/
theorem finalState_preserves (init : P {})
    (logs : ∀ {s s' : PS} {new : List (Ev × Snap)}, Logs cb s s' new → (∀ p ∈ new, isRun p.1 = false) → P s → P s')
    (setup : ∀ {s s' : PS} {new : List (Ev × Snap)} (l : Nat) (ok : Bool), Logs cb s s' new → SetupLog w new ok → P s →
      P (if ok then s' else { s' with errors := s'.errors ++ [.layerSetUp l] }))
    (iters : ∀ g ∈ orderedLayers w o, ∀ n {s s' : PS}, Extends s s' (layerDelta w o g.1 g.2 n) → P s → P s')
    (ran : ∀ s k, P s → P { s with ran := k }) : P (finalState w o cb) := by
  have hloop : P (fsLoop w o).1 := by
    unfold fsLoop fsStart
    split
    · exact logs (logs_emit cb {} _ rfl) (by simp [isRun]) init
    · refine layerLoop_preserves _ (fun g hg s hs => ?_) _ init
      obtain ⟨_, hl, hk, _⟩ := rlTorn_logs cb w o g.1 s
      have h1 := logs hl hk hs
      obtain ⟨_, hl', hk'⟩ := setupLayer_logs cb w g.1 (rlTorn w o g.1 s).1
      have h2 := setup g.1 _ hl' hk' h1
      refine runLayer_cases w o g.1 g.2 s (P := fun r => P r.1) (fun _ => h1) (fun _ hf => ?_) fun _ hf => ?_
      · rwa [hf, if_neg Bool.false_ne_true] at h2
      · rw [hf, if_pos rfl] at h2
        exact ran _ _ (iters g hg _ (runIterations_extends w o g.1 g.2 _ _) (ran _ 0 h2))
  obtain ⟨_, hl, hk⟩ := finalState_logs w o cb
  exact logs hl hk hloop

end

end Ztr.Runner
